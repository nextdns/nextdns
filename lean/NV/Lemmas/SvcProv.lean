/-
  NV.Lemmas.SvcProv — `GetEndpoints` of the HTTPS/SVCB provider, for C08: `loop_cons` peels one record off the loop;
  along it the addresses collected are the hint parameters' (`loop_ips`), and a candidate is begun at every rise of the
  priority (`loop_some_count`, from a state that holds a candidate; `rises`, `allIps`, `addrsOf` are proof-side notions).
-/
import NV.Model.SvcProv
namespace NV.SvcProvL
open NV.SvcProv

/-- the addresses a parameter contributes (`[]` when it is not a hint, or malformed) -/
def addrsOfParam (p : Param) : List Bytes :=
  if p.key = 4 then (hints 4 (p.value.length + 1) p.value).getD []
  else if p.key = 6 then (hints 16 (p.value.length + 1) p.value).getD []
  else []

def addrsOf (ps : List Param) : List Bytes := ps.flatMap addrsOfParam

theorem applyParam_ips (e e' : Ep) (p : Param) (h : applyParam e p = some e') : e'.ips = e.ips ++ addrsOfParam p := by
  rw [applyParam] at h
  rw [addrsOfParam]
  -- every branch but the last is `Option.map` over the result of a parser
  by_cases h4 : p.key = 4
  · rw [if_pos h4] at h ⊢
    obtain ⟨l, hl, rfl⟩ := Option.map_eq_some_iff.1 h
    rw [hl]; rfl
  · rw [if_neg h4] at h ⊢
    by_cases h6 : p.key = 6
    · rw [if_pos h6] at h ⊢
      obtain ⟨l, hl, rfl⟩ := Option.map_eq_some_iff.1 h
      rw [hl]; rfl
    · rw [if_neg h6] at h ⊢
      rw [List.append_nil]
      by_cases h1 : p.key = 1
      · rw [if_pos h1] at h
        obtain ⟨l, _, rfl⟩ := Option.map_eq_some_iff.1 h
        rfl
      · rw [if_neg h1] at h
        cases h; rfl

theorem applyParams_ips (ps : List Param) (e e' : Ep) (h : applyParams e ps = some e') : e'.ips = e.ips ++ addrsOf ps := by
  induction ps generalizing e with
  | nil => simp [applyParams] at h; subst h; simp [addrsOf]
  | cons p ps ih =>
    simp only [applyParams] at h
    cases hp : applyParam e p with
    | none => simp [hp] at h
    | some e1 =>
      simp only [hp] at h
      rw [ih e1 h, applyParam_ips e e1 p hp]
      simp [addrsOf, List.append_assoc]

/-- one record of the loop: a rise of the priority closes the endpoint being built (with none being
built the test `e.isSome` changes nothing) -/
theorem loop_cons {rr : RR} {rest : List RR} {prio : Nat} {e : Option Ep} {out res : List Ep}
    (h : loop (rr :: rest) prio e out = some res) :
    ∃ e', applyParams ((if prio < rr.prio then none else e).getD {}) rr.params = some e' ∧
      loop rest rr.prio (some e') (if prio < rr.prio then out ++ e.toList else out) = some res := by
  have hc : (if prio < rr.prio ∧ e.isSome = true then ((none : Option Ep), out ++ e.toList) else (e, out)) =
      (if prio < rr.prio then none else e, if prio < rr.prio then out ++ e.toList else out) := by
    cases e <;> by_cases hp : prio < rr.prio <;> simp [hp]
  simp only [loop, hc] at h
  split at h
  · cases h
  · next e' ha => exact ⟨e', ha, h⟩

def allIps (eps : List Ep) : List Bytes := eps.flatMap (·.ips)

theorem loop_ips (rrs : List RR) (prio : Nat) (e : Option Ep) (out res : List Ep)
    (h : loop rrs prio e out = some res) :
    allIps res = allIps (out ++ e.toList) ++ rrs.flatMap (fun r => addrsOf r.params) := by
  induction rrs generalizing prio e out with
  | nil => simp [loop] at h; subst h; simp
  | cons rr rest ih =>
    obtain ⟨e', ha, hl⟩ := loop_cons h
    rw [ih _ _ _ hl]
    have hi := applyParams_ips rr.params _ e' ha
    by_cases hp : prio < rr.prio
    · rw [if_pos hp] at hi; simp [allIps, hi, hp, List.flatMap_append]
    · rw [if_neg hp] at hi; cases e <;> simp [allIps, hi, hp, List.flatMap_append]

/-- how many times the priority value rises from one record to the next -/
def rises : List Nat → Nat
  | a :: b :: rest => (if a < b then 1 else 0) + rises (b :: rest)
  | _ => 0

theorem loop_some_count (rrs : List RR) (prio : Nat) (e : Ep) (out res : List Ep)
    (h : loop rrs prio (some e) out = some res) :
    res.length = out.length + 1 + rises (prio :: rrs.map (·.prio)) := by
  induction rrs generalizing prio e out with
  | nil => simp [loop] at h; subst h; simp [rises]
  | cons rr rest ih =>
    obtain ⟨e', _, hl⟩ := loop_cons h
    rw [ih _ _ _ hl]
    by_cases hc : prio < rr.prio <;> simp only [List.map_cons, rises, hc, if_true, if_false, List.length_append,
      Option.toList, List.length_singleton] <;> omega

end NV.SvcProvL
