/-
  Lemmas for C14: the sanitiser keeps exactly the bytes net/http accepts; every entry of a request's header map is a
  fixed one, a configured one or a non-empty device field (`mem_buildHeaders`).  Then `shortID` in closed
  form (`shortIDSum_eq`) and the model text of a MAC.
-/
import NV.Model.ClientInfo
namespace NV.CI
open NV

theorem keepByte_eq_valid (c : UInt8) : keepByte c = validValueByte c := by
  -- both say: not a control byte, or a tab (a space is ≥ 32 anyway)
  rw [Bool.eq_iff_iff]
  simp [keepByte, validValueByte, isCTL, isLWS]
  omega

theorem sanitize_valid (v : Bytes) : validHeaderValue (sanitize v) = true := by
  unfold validHeaderValue sanitize
  simp only [List.all_eq_true, List.mem_filter]
  intro b hb
  rw [← keepByte_eq_valid]; exact hb.2

theorem mem_hset {h : Headers} {k : Bytes} {vs : List Bytes} {kv : Bytes × List Bytes}
    (hm : kv ∈ hset h k vs) : kv = (k, vs) ∨ kv ∈ h := by
  induction h with
  | nil => exact .inl (by simpa [hset] using hm)
  | cons x rest ih =>
    obtain ⟨k', vs'⟩ := x
    unfold hset at hm
    split at hm
    · exact (List.mem_cons.mp hm).imp_right (List.mem_cons_of_mem _)
    · rcases List.mem_cons.mp hm with rfl | hm
      · exact .inr List.mem_cons_self
      · exact (ih hm).imp_right (List.mem_cons_of_mem _)

theorem hget_hset_self (h : Headers) (k : Bytes) (vs : List Bytes) : hget (hset h k vs) k = some vs := by
  induction h with
  | nil => simp [hset, hget]
  | cons x rest ih =>
    obtain ⟨k', vs'⟩ := x
    unfold hset
    split
    · simp [hget]
    · next hne => simp [hget, hne, ih]

/-- the lambda of `accepted`, which the model does not name -/
def entryOK (kv : Bytes × List Bytes) : Bool := validHeaderName kv.1 && kv.2.all validHeaderValue

theorem accepted_iff (h : Headers) : accepted h = true ↔ ∀ kv ∈ h, entryOK kv = true :=
  List.all_eq_true

theorem mem_foldl_hset {α : Type} (g : α → Bytes × List Bytes) {xs : List α} {h : Headers}
    {kv : Bytes × List Bytes} (hm : kv ∈ xs.foldl (fun h x => hset h (g x).1 (g x).2) h) :
    kv ∈ xs.map g ∨ kv ∈ h :=
  List.foldlRecOn (motive := fun h' => kv ∈ h' → kv ∈ xs.map g ∨ kv ∈ h) xs _ .inr
    (fun _ ih _ hx hm' => (mem_hset hm').elim (fun e => .inl (e ▸ List.mem_map_of_mem hx)) ih) hm

theorem mem_setIfNonEmpty {h : Headers} {k v : Bytes} {kv : Bytes × List Bytes}
    (hm : kv ∈ setIfNonEmpty h k v) : (v ≠ [] ∧ kv = (k, [v])) ∨ kv ∈ h := by
  unfold setIfNonEmpty at hm
  split at hm
  · exact .inr hm
  · next hv => exact (mem_hset hm).imp_left fun e => ⟨hv, e⟩

theorem mem_foldl_setIfNonEmpty {fs : List (Bytes × Bytes)} {h : Headers} {kv : Bytes × List Bytes}
    (hm : kv ∈ fs.foldl (fun h p => setIfNonEmpty h p.1 p.2) h) :
    (∃ p ∈ fs, p.2 ≠ [] ∧ kv = (p.1, [p.2])) ∨ kv ∈ h :=
  List.foldlRecOn (motive := fun h' => kv ∈ h' → (∃ p ∈ fs, p.2 ≠ [] ∧ kv = (p.1, [p.2])) ∨ kv ∈ h) fs _ .inr
    (fun _ ih p hp hm' => (mem_setIfNonEmpty hm').elim (fun e => .inl ⟨p, hp, e⟩) ih) hm

/-- the `if ci.F != "" { Set(k, ci.F) }` blocks of DOH.resolve, in order -/
def deviceFields (c : ClientInfo) : List (Bytes × Bytes) :=
  [(kDevId, c.id), (kDevIp, c.ip), (kDevModel, c.model), (kDevName, sanitize c.name)]

theorem buildHeaders_eq (ci : Option ClientInfo) (extra : Headers) :
    buildHeaders ci extra = (deviceFields (ci.getD {})).foldl (fun h p => setIfNonEmpty h p.1 p.2)
      (extra.foldl (fun h kv => hset h kv.1 kv.2) (fixedHeaders.foldl (fun h kv => hset h kv.1 [kv.2]) [])) := by
  simp only [buildHeaders, deviceFields, List.foldl_cons, List.foldl_nil]

theorem requestHeaders_on (H : Bytes → Nat) (x : Input) (extra : Headers) :
    requestHeaders H true x extra = buildHeaders (some (clientInfo H x)) extra := by
  simp only [requestHeaders, if_true]

theorem mem_buildHeaders {ci : Option ClientInfo} {extra : Headers} {kv : Bytes × List Bytes}
    (hm : kv ∈ buildHeaders ci extra) :
    kv ∈ fixedHeaders.map (fun p => (p.1, [p.2])) ∨ kv ∈ extra ∨
    ∃ p ∈ deviceFields (ci.getD {}), p.2 ≠ [] ∧ kv = (p.1, [p.2]) := by
  simp only [buildHeaders_eq] at hm
  rcases mem_foldl_setIfNonEmpty hm with h | hm
  · exact .inr (.inr h)
  rcases mem_foldl_hset id hm with h | hm
  · exact .inr (.inl (List.map_id extra ▸ h))
  exact .inl ((mem_foldl_hset (fun p : Bytes × Bytes => (p.1, [p.2])) hm).resolve_right List.not_mem_nil)

theorem fixedHeaders_entryOK : ∀ kv ∈ fixedHeaders.map (fun p => (p.1, [p.2])), entryOK kv = true := by decide +kernel

theorem fixedHeaders_not_device : ∀ kv ∈ fixedHeaders.map (fun p => (p.1, [p.2])), ¬ kDevPrefix <+: kv.1 := by
  decide +kernel

theorem deviceKeys_valid : ∀ k ∈ [kDevId, kDevIp, kDevModel, kDevName], validHeaderName k = true := by decide +kernel

/-- the request passes `validateHeaders` as soon as the configured headers do and the three
unsanitised device fields are valid values; the name may be anything -/
theorem accepted_buildHeaders (c : ClientInfo) (extra : Headers) (hex : accepted extra = true)
    (hid : validHeaderValue c.id = true) (hip : validHeaderValue c.ip = true)
    (hmodel : validHeaderValue c.model = true) : accepted (buildHeaders (some c) extra) = true := by
  rw [accepted_iff]
  intro kv hm
  rcases mem_buildHeaders hm with h | h | ⟨p, hp, _, rfl⟩
  · exact fixedHeaders_entryOK kv h
  · exact (accepted_iff _).mp hex kv h
  · have hkey := deviceKeys_valid p.1
    simp only [Option.getD_some, deviceFields, List.mem_cons, List.not_mem_nil, or_false] at hp
    rcases hp with rfl | rfl | rfl | rfl <;> simp [entryOK, hkey, hid, hip, hmodel, sanitize_valid]

theorem b32rev_ne_nil (f n : Nat) : b32rev (f + 1) n ≠ [] := by
  unfold b32rev; split <;> simp

theorem b32rev_length_le (f n : Nat) : (b32rev f n).length ≤ f := by
  induction f generalizing n with
  | zero => simp [b32rev]
  | succ f ih =>
    unfold b32rev; split
    · simp
    · have := ih (n / 32); simp; omega

theorem base32_length_pos (n : Nat) : 1 ≤ (base32 n).length := by
  unfold base32
  have := b32rev_ne_nil 12 n
  rw [List.length_reverse]
  exact List.length_pos_iff.mpr this

theorem base32_length_le (n : Nat) : (base32 n).length ≤ 13 := by
  unfold base32; rw [List.length_reverse]; exact b32rev_length_le 13 n

/-- an upper-case base-32 digit: 0-9, A-V -/
def isB32Upper (c : UInt8) : Prop := (48 ≤ c.toNat ∧ c.toNat ≤ 57) ∨ (65 ≤ c.toNat ∧ c.toNat ≤ 86)

theorem mem_b32rev (f n : Nat) : ∀ c ∈ b32rev f n, ∃ d : Fin 32, c = digit32 d.val := by
  induction f generalizing n with
  | zero => simp [b32rev]
  | succ f ih =>
    unfold b32rev; split
    · next hlt => intro c hc; exact ⟨⟨n, hlt⟩, List.mem_singleton.mp hc⟩
    · intro c hc
      rcases List.mem_cons.mp hc with hc | hc
      · exact ⟨⟨n % 32, Nat.mod_lt _ (by decide)⟩, hc⟩
      · exact ih _ c hc

theorem upperByte_digit32 : ∀ d : Fin 32, isB32Upper (upperByte (digit32 d.val)) := by
  unfold isB32Upper; decide

/-- value of a base-32 digit character of strconv's alphabet -/
def undigit32 (c : UInt8) : Nat := if c.toNat < 58 then c.toNat - 48 else c.toNat - 87

/-- value of a digit string, least significant digit first -/
def valRev : Bytes → Nat
  | [] => 0
  | c :: rest => undigit32 c + 32 * valRev rest

theorem undigit32_digit32 : ∀ d < 32, undigit32 (digit32 d) = d := by decide

theorem b32rev_value (f n : Nat) (h : n < 32 ^ f) : valRev (b32rev f n) = n := by
  induction f generalizing n with
  | zero => simp at h; subst h; simp [b32rev, valRev]
  | succ f ih =>
    unfold b32rev
    split
    · next hlt => simp [valRev, undigit32_digit32 n hlt]
    · have hd : n / 32 < 32 ^ f := by
        apply Nat.div_lt_of_lt_mul
        rw [Nat.pow_succ] at h; omega
      simp only [valRev, undigit32_digit32 (n % 32) (Nat.mod_lt _ (by decide)), ih (n / 32) hd]
      omega

/-- the model's `base32 n` read in the alphabet of `strconv.FormatUint(n, 32)` has the value `n`, for every uint64 -/
theorem base32_value (n : Nat) (h : n < 2 ^ 64) : valRev (base32 n).reverse = n := by
  unfold base32
  rw [List.reverse_reverse]
  have hp : (2:Nat) ^ 64 < 32 ^ 13 := by decide
  exact b32rev_value 13 n (Nat.lt_trans h hp)

theorem backing_length (sum : Nat) (conf dev : Bytes) : 13 ≤ (backingAfterDigits sum conf dev).length := by
  unfold backingAfterDigits
  have h1 := base32_length_le sum
  simp only [List.length_append, List.length_drop, List.length_replicate]
  omega

theorem backing_take_digits (sum : Nat) (conf dev : Bytes) :
    (backingAfterDigits sum conf dev).take (base32 sum).length = base32 sum := by
  unfold backingAfterDigits
  simp

theorem take_pad {α : Type} (ds tail : List α) (c : α) {n m : Nat} (h1 : ds.length ≤ n) (h2 : n ≤ ds.length + m) :
    (ds ++ List.replicate (n - ds.length) c ++ tail).take n = (ds ++ List.replicate m c).take n := by
  -- both sides are `ds` padded to `n` elements
  rw [List.take_left' (by simp; omega), List.take_append, List.take_of_length_le h1, List.take_replicate,
    Nat.min_eq_left (by omega)]

/-- `shortID` depends on the hash value only -/
theorem shortIDSum_eq (sum : Nat) (conf dev : Bytes) :
    shortIDSum sum conf dev = ((base32 sum ++ List.replicate 4 48).take 5).map upperByte := by
  have hpos := base32_length_pos sum
  unfold shortIDSum
  simp only
  split
  · next hk => rw [backing_take_digits, take_pad _ _ 48 (m := 4) (Nat.le_of_lt hk) (by omega)]
  · next hk =>
    congr 1
    unfold backingAfterDigits
    simp only
    rw [List.take_append_of_le_length (by omega), List.take_append_of_le_length (by omega)]

/-- before the repair, written out: the digits, then profile ‖ device ‖ zero padding from byte k on -/
theorem shortIDLegacy_eq (sum : Nat) (conf dev : Bytes) :
    shortIDLegacy sum conf dev =
      ((base32 sum ++ ((conf ++ dev ++ List.replicate (max 13 (conf.length + dev.length) - (conf.length + dev.length)) 0).drop
        (base32 sum).length)).take 5).map upperByte := by
  unfold shortIDLegacy backingAfterDigits
  rfl

/-- concrete leak of the unrepaired code, found by the harness on the real `shortID` (profile "\x89",
MAC 8f:63:9e:38:cf:17:b3, xxhash = 27): the id is the digit "R" followed by the first four MAC bytes (bit 5
flipped where ≥ 'a') -/
theorem shortIDLegacy_leaks_mac :
    shortIDLegacy 27 [0x89] [0x8f, 0x63, 0x9e, 0x38, 0xcf, 0x17, 0xb3] = [0x52, 0xaf, 0x43, 0xbe, 0x38] := by
  decide

theorem macString_length (m : Bytes) : (macString m).length = 3 * m.length - 1 := by
  induction m with
  | nil => simp [macString]
  | cons b rest ih =>
    cases rest with
    | nil => simp [macString]
    | cons c rest' =>
      simp only [macString, List.length_cons] at *
      omega

theorem macModel_take3 (m : Bytes) : macModel m = macModel (m.take 3) := by
  match m with
  | [] => rfl
  | [_] => rfl
  | [_, _] => rfl
  | [_, _, _] => rfl
  | a :: b :: c :: d :: rest =>
    unfold macModel
    simp [macString]

theorem macModel_length_le (m : Bytes) : (macModel m).length ≤ 12 := by
  unfold macModel
  simp only
  split
  · simp [str, List.length_take]; omega
  · simp

theorem hexLower_valid : ∀ n < 16, validValueByte (hexLower n) = true := by decide

theorem macString_valid (m : Bytes) : validHeaderValue (macString m) = true := by
  unfold validHeaderValue
  induction m with
  | nil => rfl
  | cons b rest ih =>
    have h1 := hexLower_valid (b.toNat / 16) (by have := UInt8.toNat_lt b; omega)
    have h2 := hexLower_valid (b.toNat % 16) (Nat.mod_lt _ (by decide))
    cases rest with
    | nil => simp [macString, h1, h2]
    | cons c rest' =>
      simp only [macString, List.all_cons, h1, h2, Bool.true_and] at *
      have : validValueByte 58 = true := by decide
      simp [this, ih]

theorem macModel_valid (m : Bytes) : validHeaderValue (macModel m) = true := by
  unfold macModel
  simp only
  split
  · have h := macString_valid m
    unfold validHeaderValue at *
    rw [List.all_append]
    have h1 : (str "mac:").all validValueByte = true := by decide
    rw [h1, Bool.true_and, List.all_eq_true]
    intro c hc
    exact List.all_eq_true.mp h c (List.mem_of_mem_take hc)
  · rfl

end NV.CI
