/-
  NV.Lemmas.Query — the dnsmessage model on an ENCODED structured query (`NV.Spec.encode`), read field by field
  along `At` up to `parse_encode`; `applyOpts` as three independent folds; its checked twin; last, ANY payload.
-/
import NV.Lemmas.Wire
import NV.Model.Query
import NV.Spec.QueryMsg
namespace NV
open NV.Spec

theorem At.unpackU16 {msg : Bytes} {off n : Nat} (h : At msg off (be16 n)) (hn : n < 65536) :
    unpackU16 msg off = .ok (n, off + 2) := by
  have := h.le
  unfold NV.unpackU16
  rw [if_neg (by simpa using this), h.rd16 hn]

theorem At.unpackU32 {msg : Bytes} {off n : Nat} (h : At msg off (be32 n)) (hn : n < 4294967296) :
    unpackU32 msg off = .ok (n, off + 4) := by
  have := h.le
  unfold NV.unpackU32
  rw [if_neg (by simpa using this), h.rd32 hn]

@[simp] theorem encLabels_length_pos (ls : List Bytes) : 1 ≤ (encLabels ls).length := by
  cases ls <;> simp [encLabels]

/-- the name shown by dnsmessage for a label list: "." for the root -/
def shown (ls : List Bytes) : Bytes := if ls = [] then [46] else dotted ls

theorem unpackNameLoop_label {msg l : Bytes} {off : Nat} (h : At msg off (b8 l.length :: l))
    (h1 : 1 ≤ l.length) (h63 : l.length ≤ 63) (newOff ptr : Nat) (name : Bytes) :
    unpackNameLoop msg off newOff ptr name
      = unpackNameLoop msg (off + 1 + l.length) newOff ptr (name ++ l ++ [46]) := by
  have hbyte : byteAt msg off = l.length := by rw [h.byteAt, b8_toNat _ (Nat.lt_of_le_of_lt h63 (by decide))]
  rw [unpackNameLoop, dif_neg (Nat.not_le.mpr h.lt)]
  simp only [hbyte]
  rw [if_pos (Nat.div_eq_of_lt (Nat.lt_succ_of_le h63)), if_neg (Nat.ne_of_gt h1),
    if_neg (Nat.not_lt.mpr h.tail.le), h.tail.slice]

theorem unpackNameLoop_root {msg : Bytes} {off : Nat} (h : At msg off [0]) (newOff : Nat) {name : Bytes}
    (hn : (if name.isEmpty then [46] else name).length ≤ 255) :
    unpackNameLoop msg off newOff 0 name = .ok (if name.isEmpty then [46] else name, off + 1) := by
  rw [unpackNameLoop, dif_neg (Nat.not_le.mpr h.lt), h.byteAt]
  simp only [UInt8.toNat_zero, Nat.zero_div, ↓reduceIte, if_neg (Nat.not_lt.mpr hn)]

theorem unpackNameLoop_at (ls : List Bytes) : ∀ (msg name : Bytes) (off newOff : Nat),
    At msg off (encLabels ls) →
    (∀ l ∈ ls, 1 ≤ l.length ∧ l.length ≤ 63) → (name ++ dotted ls).length ≤ 255 →
    unpackNameLoop msg off newOff 0 name
      = .ok (if (name ++ dotted ls).isEmpty then [46] else name ++ dotted ls,
             off + (encLabels ls).length) := by
  induction ls with
  | nil =>
    intro msg name off newOff h _ hlen
    rw [dotted, List.append_nil] at hlen ⊢
    have hn : (if name.isEmpty then [46] else name).length ≤ 255 := by
      split
      · decide
      · exact hlen
    exact unpackNameLoop_root h newOff hn
  | cons l ls ih =>
    intro msg name off newOff h hl hlen
    have hl0 := hl l List.mem_cons_self
    rw [unpackNameLoop_label (h.left (Y := encLabels ls)) hl0.1 hl0.2,
      ih msg (name ++ l ++ [46]) _ newOff h.tail.right (fun x hx => hl x (List.mem_cons_of_mem _ hx))
        (by simpa [dotted] using hlen)]
    simp [dotted, encLabels, Nat.add_assoc, Nat.add_comm 1]

theorem unpackName_at {msg : Bytes} {off : Nat} (ls : List Bytes) (hm : At msg off (encLabels ls))
    (h : LabelsOK ls) : unpackName msg off = .ok (shown ls, off + (encLabels ls).length) := by
  rw [unpackName, unpackNameLoop_at ls msg [] off off hm h.1 (by simpa using h.2)]
  unfold shown
  cases ls <;> simp [dotted]

/-- fixed part of a resource record: owner, TYPE, CLASS, TTL, RDLENGTH -/
def encRH (ls : List Bytes) (t c ttl len : Nat) : Bytes :=
  encLabels ls ++ (be16 t ++ (be16 c ++ (be32 ttl ++ be16 len)))

theorem encRH_length (ls : List Bytes) (t c ttl len : Nat) :
    (encRH ls t c ttl len).length = (encLabels ls).length + 10 := by
  simp [encRH]

theorem encRR_eq (r : PreRR) :
    encRR r = encRH r.labels r.type r.cls r.ttl r.rdata.length ++ r.rdata := by
  simp [encRR, encRH]

theorem encOPT_eq (udp ttl : Nat) (opts : List EOpt) :
    encOPT udp ttl opts = encRH [] 41 udp ttl (encOpts opts).length ++ encOpts opts := by
  simp [encOPT, encRH, encLabels]

theorem labelsOK_nil : LabelsOK [] := ⟨by simp, by simp [dotted]⟩

theorem unpackRH_at {msg : Bytes} {off : Nat} (ls : List Bytes) (t c ttl len : Nat)
    (hm : At msg off (encRH ls t c ttl len)) (h : LabelsOK ls)
    (ht : t < 65536) (hc : c < 65536) (httl : ttl < 4294967296) (hlen : len < 65536) :
    unpackRH msg off
      = .ok ({ name := shown ls, type := t, cls := c, ttl := ttl, len := len },
             off + (encRH ls t c ttl len).length) := by
  have h1 := hm.right
  have h2 := h1.right
  have h3 := h2.right
  have h4 := h3.right
  simp only [be16_length, be32_length] at h2 h3 h4
  rw [show off + (encRH ls t c ttl len).length = off + (encLabels ls).length + 2 + 2 + 4 + 2 by rw [encRH_length]; rfl]
  simp only [unpackRH, bind, Except.bind, unpackName_at ls hm.left h, h1.left.unpackU16 ht,
    h2.left.unpackU16 hc, h3.left.unpackU32 httl, h4.unpackU16 hlen]

/-- what `unpackOPTResource` returns for an encoded option list starting at `off` -/
def optsFrom (off : Nat) : List EOpt → List Opt
  | [] => []
  | o :: os => ⟨o.code, o.data, off + 4⟩ :: optsFrom (off + 4 + o.data.length) os

@[simp] theorem encOpt_length (o : EOpt) : (encOpt o).length = 4 + o.data.length := by
  simp [encOpt]; omega

theorem unpackOptsLoop_opt {msg : Bytes} {off endOff : Nat} {o : EOpt} (h : At msg off (encOpt o)) (hwf : o.WF)
    (hend : off < endOff) (acc : List Opt) :
    unpackOptsLoop msg off endOff acc
      = unpackOptsLoop msg (off + 4 + o.data.length) endOff (acc ++ [⟨o.code, o.data, off + 4⟩]) := by
  have hcode : At msg off (be16 o.code) := h.left.left
  have hlen : At msg (off + 2) (be16 o.data.length) := h.left.right
  have hdata : At msg (off + 4) o.data := h.right
  have h2 : off + 2 ≤ msg.length := hcode.le
  have h4 : off + 4 ≤ msg.length := hlen.le
  rw [unpackOptsLoop, dif_pos hend, if_neg (Nat.not_lt.mpr h2), if_neg (Nat.not_lt.mpr h4)]
  simp only [hcode.rd16 hwf.1, hlen.rd16 hwf.2]
  rw [if_neg (Nat.not_lt.mpr (Nat.le_sub_of_add_le' hdata.le)), hdata.slice]

theorem unpackOptsLoop_at (os : List EOpt) : ∀ (msg : Bytes) (off : Nat) (acc : List Opt),
    At msg off (encOpts os) → (∀ o ∈ os, o.WF) →
    unpackOptsLoop msg off (off + (encOpts os).length) acc = .ok (acc ++ optsFrom off os) := by
  induction os with
  | nil => intro msg off acc _ _; rw [unpackOptsLoop]; simp [encOpts, optsFrom]
  | cons o os ih =>
    intro msg off acc h hwf
    have hl : (encOpts (o :: os)).length = 4 + o.data.length + (encOpts os).length := by
      rw [encOpts, List.length_append, encOpt_length]
    have hrest : At msg (off + 4 + o.data.length) (encOpts os) := by
      have := h.right; rwa [encOpt_length, ← Nat.add_assoc] at this
    rw [unpackOptsLoop_opt h.left (hwf o List.mem_cons_self) (by omega),
      show off + (encOpts (o :: os)).length = off + 4 + o.data.length + (encOpts os).length by omega,
      ih msg _ _ hrest (fun x hx => hwf x (List.mem_cons_of_mem _ hx))]
    simp [optsFrom]

/-- `nutterECSOption` zeroes as many data bytes as the LOW byte of OPTION-LENGTH `n` says: `d` is that
much of the data (for `n < 256` all of it), `B` whatever follows -/
theorem nutterECS_append (A d B : Bytes) (code n : Nat) (h1 : 1 ≤ d.length) (hd : d.length = n % 256) :
    nutterECS (A ++ (be16 code ++ (be16 n ++ (d ++ B)))) (A.length + 4)
      = A ++ (be16 0xFFFF ++ (be16 n ++ (List.replicate d.length 0 ++ B))) := by
  have hlen := (At.suffix A (be16 code ++ (be16 n ++ (d ++ B)))).right.left
  have hdat : At _ (A.length + 4) d := (At.suffix A (be16 code ++ (be16 n ++ (d ++ B)))).right.right.left
  have hsz : byteAt (A ++ (be16 code ++ (be16 n ++ (d ++ B)))) (A.length + 3) = d.length := by
    rw [hd, ← b8_toNat_mod]; exact hlen.tail.byteAt
  unfold nutterECS
  rw [if_neg (Nat.not_lt.mpr (Nat.le_add_left 4 _))]
  simp only [Nat.add_sub_cancel, hsz]
  rw [if_neg (Nat.not_le.mpr (Nat.lt_of_lt_of_le (Nat.lt_add_of_pos_right h1) hdat.le)),
    if_neg (Nat.not_lt.mpr hdat.le), Nat.add_sub_cancel_left]
  -- the zeroes over `d`, then 0xFFFF over the code
  show setBytes (setBytes _ _ _) A.length [255, 255] = _
  rw [show A.length + 4 = (A ++ (be16 code ++ be16 n)).length by simp,
    show A ++ (be16 code ++ (be16 n ++ (d ++ B))) = (A ++ (be16 code ++ be16 n)) ++ (d ++ B) by simp,
    setBytes_mid _ _ d B (by simp)]
  rw [List.append_assoc, List.append_assoc, setBytes_mid [255, 255] A (be16 code) _ rfl]
  rfl

theorem nutterECS_enc (o : EOpt) (A B : Bytes) (h1 : 1 ≤ o.data.length) (h255 : o.data.length ≤ 255) :
    nutterECS (A ++ (encOpt o ++ B)) (A.length + 4)
      = A ++ (encOpt ⟨0xFFFF, List.replicate o.data.length 0⟩ ++ B) := by
  simp only [encOpt, List.append_assoc, List.length_replicate]
  exact nutterECS_append A o.data B o.code o.data.length h1 (Nat.mod_eq_of_lt (by omega)).symm

theorem nutterECS_length (p : Bytes) (off : Nat) : (nutterECS p off).length = p.length := by
  fun_cases nutterECS p off
  · rfl
  · rfl
  · rfl
  · simp only [List.length_set]; exact setBytes_length _ _ _

theorem idx?_eq_some {b : Bytes} {i : Nat} (h : i < b.length) : idx? b i = some (byteAt b i) := if_pos h

theorem slice?_eq_some {b : Bytes} {lo hi : Nat} (hlo : lo ≤ hi) (hhi : hi ≤ b.length) :
    slice? b lo hi = some (slice b lo (hi - lo)) :=
  if_pos ⟨hlo, hhi⟩

theorem setIdx?_eq_some {p : Bytes} {i : Nat} {v : UInt8} (h : i < p.length) : setIdx? p i v = some (p.set i v) :=
  if_pos h

theorem zeroRange?_eq_some {p : Bytes} {i n : Nat} (h : i + n ≤ p.length) :
    zeroRange? p i n = some (setBytes p i (List.replicate n 0)) := by
  induction n generalizing p i with
  | zero => rfl
  | succ n ih =>
    rw [zeroRange?, setIdx?_eq_some (by omega), Option.bind_some, ih (by rw [List.length_set]; omega)]; rfl

theorem nutterECS?_eq (p : Bytes) (d : Nat) : nutterECS? p d = some (nutterECS p d) := by
  fun_cases nutterECS p d
  all_goals rw [nutterECS?]
  -- `size` is a `let` under the `let` of `off`, which `omega` does not see through: expand the
  -- path conditions first.  The writes keep the length, so their bounds are those of the payload.
  all_goals simp +zetaDelta only [] at *
  all_goals simp +zetaDelta (disch := (try simp only [setBytes_length, List.length_set]); omega) only [*,
    ↓reduceIte, if_neg, zeroRange?_eq_some, setIdx?_eq_some, Option.bind_some]

/-- the body of the `for _, o := range opt.Options` loop, which `applyOpts` does not name; `applyOpt?` is its twin -/
def optStep (o : Opt) (q : Query) : Query :=
  if o.code = 0xfde9 then { q with mac := some o.data }
  else if o.code = 8 then
    if o.data.length < 8 then q
    else
      let fam := byteAt o.data 1
      if fam = 1 then
        let q := if byteAt o.data 2 = 32 then { q with peerIP := some (slice o.data 4 4) } else q
        { q with payload := nutterECS q.payload o.dataOff }
      else if fam = 2 then
        let q := if byteAt o.data 2 = 128 ∧ o.data.length ≥ 20
                 then { q with peerIP := some (slice o.data 4 16) } else q
        { q with payload := nutterECS q.payload o.dataOff }
      else q
  else q

theorem applyOpts_cons (o : Opt) (os : List Opt) (q : Query) :
    applyOpts (o :: os) q = applyOpts os (optStep o q) := rfl

theorem applyOpt?_eq (o : Opt) (q : Query) : applyOpt? o q = some (optStep o q) := by
  unfold applyOpt? optStep
  by_cases hm : o.code = 0xfde9
  · simp only [hm, ↓reduceIte]
  by_cases h8 : o.code = 8
  case neg => simp only [hm, h8, ↓reduceIte]
  simp only [h8, Nat.reduceEqDiff, ↓reduceIte]
  by_cases hl : o.data.length < 8
  · simp only [hl, ↓reduceIte]
  -- past `len(o.Data) < 8`: `o.Data[1]`, `o.Data[2]`, `o.Data[4:8]` are in range
  have h8 : 8 ≤ o.data.length := Nat.le_of_not_lt hl
  simp only [hl, ↓reduceIte, idx?_eq_some (Nat.lt_of_lt_of_le (by decide : 1 < 8) h8),
    idx?_eq_some (Nat.lt_of_lt_of_le (by decide : 2 < 8) h8), slice?_eq_some (by decide : 4 ≤ 8) h8,
    Option.bind_some]
  by_cases hf1 : byteAt o.data 1 = 1
  · by_cases hb : byteAt o.data 2 = 32 <;> simp only [hf1, hb, ↓reduceIte, Option.map_some, Nat.reduceSub]
  by_cases hf2 : byteAt o.data 1 = 2
  · by_cases hb : byteAt o.data 2 = 128 ∧ o.data.length ≥ 20
    -- `o.Data[4:20]` is read under its own guard `len(o.Data) ≥ 20`
    · simp only [hf2, hb, slice?_eq_some (by decide : 4 ≤ 20) hb.2, and_self, Nat.reduceEqDiff, ↓reduceIte,
        Option.map_some, Nat.reduceSub]
    · simp only [hf2, hb, Nat.reduceEqDiff, ↓reduceIte, Option.map_some]
  · simp only [hf1, hf2, ↓reduceIte]

/-- the effect of one option on the payload, on PeerIP and on the MAC, the first two in the
specification's terms (`isECS`, `carried`) -/
def stepPayload (p : Bytes) (o : Opt) : Bytes :=
  if isECS ⟨o.code, o.data⟩ then nutterECS p o.dataOff else p

def stepPeer (acc : Option Bytes) (o : Opt) : Option Bytes :=
  match carried ⟨o.code, o.data⟩ with
  | some ip => some ip
  | none => acc

def stepMac (acc : Option Bytes) (o : Opt) : Option Bytes := if o.code = 0xfde9 then some o.data else acc

/-- the loop body touches three fields, each by a function of that field and the option alone -/
theorem optStep_eq (o : Opt) (q : Query) : optStep o q =
    { q with mac := stepMac q.mac o, peerIP := stepPeer q.peerIP o, payload := stepPayload q.payload o } := by
  unfold optStep stepMac stepPeer stepPayload carried isECS
  by_cases h1 : o.code = 0xfde9
  · simp [h1]
  · by_cases h2 : o.code = 8
    · by_cases h3 : o.data.length < 8
      · simp [h2, h3, show ¬ 8 ≤ o.data.length by omega]
      · by_cases h4 : byteAt o.data 1 = 1
        · by_cases h6 : byteAt o.data 2 = 32 <;> simp [h2, h3, h4, h6, show 8 ≤ o.data.length by omega]
        · by_cases h5 : byteAt o.data 1 = 2
          · by_cases h6 : byteAt o.data 2 = 128 ∧ 20 ≤ o.data.length <;>
              simp [h2, h3, h5, h6, show 8 ≤ o.data.length by omega]
          · simp [h2, h3, h4, h5]
    · simp [h1, h2]

theorem applyOpts_eq (os : List Opt) : ∀ q : Query, applyOpts os q =
    { q with mac := os.foldl stepMac q.mac, peerIP := os.foldl stepPeer q.peerIP,
             payload := os.foldl stepPayload q.payload } := by
  induction os with
  | nil => intro q; rfl
  | cons o os ih => intro q; rw [applyOpts_cons, ih, optStep_eq]; rfl

theorem applyOpts_payload (os : List Opt) (q : Query) :
    (applyOpts os q).payload = os.foldl stepPayload q.payload := by rw [applyOpts_eq]

theorem applyOpts_peer (os : List Opt) (q : Query) :
    (applyOpts os q).peerIP = os.foldl stepPeer q.peerIP := by rw [applyOpts_eq]

theorem applyOpts_fixed (os : List Opt) (q : Query) :
    (applyOpts os q).id = q.id ∧ (applyOpts os q).name = q.name ∧ (applyOpts os q).type = q.type ∧
    (applyOpts os q).cls = q.cls := by
  rw [applyOpts_eq]; exact ⟨rfl, rfl, rfl, rfl⟩

theorem stepPayload_length (p : Bytes) (o : Opt) : (stepPayload p o).length = p.length := by
  unfold stepPayload; split
  · exact nutterECS_length _ _
  · rfl

theorem foldl_stepPayload_length (os : List Opt) (p : Bytes) : (os.foldl stepPayload p).length = p.length :=
  List.foldlRecOn (motive := fun p' => p'.length = p.length) os _ rfl fun p' h o _ => (stepPayload_length p' o).trans h

theorem neutral_data_length (o : EOpt) : (neutral o).data.length = o.data.length := by
  unfold neutral; split <;> simp

theorem encOpts_neutral_length (os : List EOpt) :
    (encOpts (os.map neutral)).length = (encOpts os).length := by
  induction os with
  | nil => rfl
  | cons o os ih => simp [encOpts, ih, neutral_data_length]

theorem foldl_stepPayload_enc (os : List EOpt) : ∀ (A : Bytes),
    (∀ o ∈ os, o.data.length ≤ 255) →
    (optsFrom A.length os).foldl stepPayload (A ++ encOpts os) = A ++ encOpts (os.map neutral) := by
  induction os with
  | nil => intro A _; rfl
  | cons o os ih =>
    intro A h
    have h255 := h o (by simp)
    simp only [optsFrom, List.foldl, List.map, encOpts]
    have hstep : stepPayload (A ++ (encOpt o ++ encOpts os)) ⟨o.code, o.data, A.length + 4⟩
        = (A ++ encOpt (neutral o)) ++ encOpts os := by
      unfold stepPayload neutral
      by_cases hc : isECS o
      · rw [if_pos hc, if_pos hc, nutterECS_enc o A (encOpts os) (by have := hc.2.1; omega) h255]
        simp
      · rw [if_neg hc, if_neg hc]
        simp
    rw [hstep]
    have hl : A.length + 4 + o.data.length = (A ++ encOpt (neutral o)).length := by
      simp [neutral_data_length]; omega
    rw [hl, ih _ (fun x hx => h x (by simp [hx]))]
    simp

theorem foldl_stepPeer_spec (os : List EOpt) : ∀ (off : Nat) (acc : Option Bytes),
    (optsFrom off os).foldl stepPeer acc = specPeer os acc := by
  induction os with
  | nil => intro _ _; rfl
  | cons o os ih => intro off acc; exact ih _ _

theorem parseLoop_record {p : Parser} {h : RH} {off' : Nat} (fuel : Nat) (q : Query) (hs : p.sec = 5)
    (hv : p.rhValid = false) (hne : ¬ p.index = p.ar) (hrh : unpackRH p.msg p.off = .ok (h, off'))
    (ht : ¬ h.type = 41) (hlen : off' + h.len ≤ p.msg.length) :
    parseLoop (fuel + 1) p q
      = parseLoop fuel { p with off := off' + h.len, rhValid := false, rh := h, index := p.index + 1 } q := by
  simp [parseLoop, Parser.resourceHeader, Parser.checkAdvance, Parser.count, Parser.skipResource, hs, hv, hne,
    hrh, ht, Nat.not_lt.mpr hlen]

theorem parseLoop_opt {p : Parser} {h : RH} {off' : Nat} {os : List Opt} (fuel : Nat) (q : Query)
    (hs : p.sec = 5) (hv : p.rhValid = false) (hne : ¬ p.index = p.ar)
    (hrh : unpackRH p.msg p.off = .ok (h, off')) (ht : h.type = 41)
    (hopts : unpackOptsLoop p.msg off' (off' + h.len) [] = .ok os) :
    parseLoop (fuel + 1) p q = .done .ok (applyOpts os { q with msgSize := h.cls }) := by
  simp [parseLoop, Parser.resourceHeader, Parser.checkAdvance, Parser.count, Parser.optResource, hs, hv, hne,
    hrh, ht, hopts]

-- + 11: the root owner byte and the 10 fixed bytes of the OPT record
theorem parseLoop_at (udp ttl : Nat) (opts : List EOpt) (hu : udp < 65536) (ht : ttl < 4294967296)
    (ho : ∀ o ∈ opts, o.WF) (hol : (encOpts opts).length < 65536) (rs : List PreRR) :
    ∀ (fuel : Nat) (p : Parser) (q : Query), p.sec = 5 → p.rhValid = false →
    At p.msg p.off (encRRs rs ++ encOPT udp ttl opts) →
    (∀ r ∈ rs, r.WF) → rs.length < fuel → p.index + rs.length < p.ar →
    parseLoop fuel p q
      = .done .ok (applyOpts (optsFrom (p.off + (encRRs rs).length + 11) opts) { q with msgSize := udp }) := by
  induction rs with
  | nil =>
    intro fuel p q hs hv h _ hf hi
    obtain ⟨f, rfl⟩ := Nat.exists_eq_add_one_of_ne_zero (Nat.ne_of_gt (Nat.zero_lt_of_lt hf))
    have hne : ¬ p.index = p.ar := Nat.ne_of_lt (Nat.lt_of_le_of_lt (Nat.le_add_right _ _) hi)
    -- the OPT record: its fixed part, then the options
    rw [encRRs, List.nil_append, encOPT_eq] at h
    have hrh := unpackRH_at [] 41 udp ttl _ h.left labelsOK_nil (by decide) hu ht hol
    have hopts := unpackOptsLoop_at opts p.msg _ [] h.right ho
    rw [parseLoop_opt f q hs hv hne hrh rfl hopts]
    simp [encRRs, encRH_length, encLabels]
  | cons r rs ih =>
    intro fuel p q hs hv h hwf hf hi
    obtain ⟨f, rfl⟩ := Nat.exists_eq_add_one_of_ne_zero (Nat.ne_of_gt (Nat.zero_lt_of_lt hf))
    have hne : ¬ p.index = p.ar := Nat.ne_of_lt (Nat.lt_of_le_of_lt (Nat.le_add_right _ _) hi)
    obtain ⟨hlab, hty, hty41, hcl, httl, hrd⟩ := hwf r List.mem_cons_self
    -- one record: its fixed part, its data, then the remaining records and the OPT
    rw [encRRs, List.append_assoc, encRR_eq, List.append_assoc] at h
    have hrh := unpackRH_at r.labels r.type r.cls r.ttl r.rdata.length h.left hlab hty hcl httl hrd
    rw [parseLoop_record f q hs hv hne hrh hty41 h.right.left.le]
    -- the hypotheses of `ih` in their order, as goals: the parser is read off the goal (from `hs` it would be `p`)
    refine (ih f _ q ?_ ?_ ?_ ?_ ?_ ?_).trans ?_
    · exact hs
    · rfl
    · exact h.right.right
    · exact fun x hx => hwf x (List.mem_cons_of_mem _ hx)
    · exact Nat.lt_of_succ_lt_succ hf
    · show p.index + 1 + rs.length < p.ar
      rwa [Nat.add_assoc, Nat.add_comm 1]
    · simp only [encRRs, encRR_eq, List.length_append, Nat.add_assoc]

theorem skipAll_done {fuel : Nat} (step : Parser → Except PErr Unit × Parser) (p p' : Parser)
    (h : step p = (.error .sectionDone, p')) :
    Parser.skipAllFuel (fuel + 1) step p = some (.ok (), p') := by
  rw [Parser.skipAllFuel, h]

theorem skipAllQuestions_none_left (p : Parser) (hs : p.sec = 2) (hi : p.index = p.qd) :
    Parser.skipAllFuel skipFuel Parser.skipQuestion p
      = some (.ok (), { p with rhValid := false, index := 0, sec := 3 }) :=
  skipAll_done _ _ _ (by simp [Parser.skipQuestion, Parser.checkAdvance, Parser.count, hs, hi])

theorem skipAllResources_none_left (sec : Nat) (p : Parser) (hs : p.sec = sec) (hv : p.rhValid = false)
    (hi : p.index = p.count sec) :
    Parser.skipAllFuel skipFuel (fun p => p.skipResource sec) p
      = some (.ok (), { p with rhValid := false, index := 0, sec := sec + 1 }) :=
  skipAll_done _ _ _
    (by simp [Parser.skipResource, Parser.skipResourceFresh, Parser.checkAdvance, Parser.count, hs, hv, hi])

theorem question_ok {p : Parser} {name : Bytes} {off1 t off2 c off3 : Nat} (hs : p.sec = 2)
    (hne : ¬ p.index = p.qd) (h1 : unpackName p.msg p.off = .ok (name, off1))
    (h2 : unpackU16 p.msg off1 = .ok (t, off2)) (h3 : unpackU16 p.msg off2 = .ok (c, off3)) :
    p.question = (.ok ⟨name, t, c⟩, { p with rhValid := false, off := off3, index := p.index + 1 }) := by
  simp [Parser.question, Parser.checkAdvance, Parser.count, hs, hne, h1, h2, h3]

/-- the query fields `parse` extracts before looking at the options (not `parseFuel`'s local `q0`) -/
def q0 (m : QueryMsg) (payload : Bytes) : Query :=
  { id := m.id, rd := (m.flags / 256) % 2 = 1, cls := m.qcls, type := m.qtype, name := shown m.qname,
    msgSize := m.udpSize, payload := payload }

def upToOpts (m : QueryMsg) : Bytes := front m ++ encRH [] 41 m.udpSize m.optTTL (encOpts m.opts).length

theorem encode_eq_upToOpts (m : QueryMsg) : encode m = upToOpts m ++ encOpts m.opts := by
  simp [upToOpts, encode, encOPT_eq]

theorem parse_encode (m : QueryMsg) (hwf : m.WF) :
    parse (encode m) = .done .ok (applyOpts (optsFrom (upToOpts m).length m.opts) (q0 m (encode m))) := by
  obtain ⟨hid, hfl, hqn, hqt, hqc, hpre, hnpre, hudp, httl, hopts, hol⟩ := hwf
  have hE : encode m = be16 m.id ++ (be16 m.flags ++ (be16 1 ++ (be16 0 ++ (be16 0 ++
      (be16 (m.pre.length + 1) ++ (encLabels m.qname ++ (be16 m.qtype ++ (be16 m.qcls ++
      (encRRs m.pre ++ encOPT m.udpSize m.optTTL m.opts))))))))) := by
    simp only [encode, front, header, List.append_assoc]
  have hfront : (upToOpts m).length
      = 12 + (encLabels m.qname).length + 2 + 2 + (encRRs m.pre).length + 11 := by
    simp only [upToOpts, front, header, encRH_length, encLabels, List.length_append, be16_length, List.length_cons,
      List.length_nil]
    omega
  generalize encode m = msg at hE ⊢
  -- walk along the encoding: six header words, the question, the additional section
  have h0 := At.of_eq hE
  have h2 := h0.right
  have h4 := h2.right
  have h6 := h4.right
  have h8 := h6.right
  have h10 := h8.right
  have h12 := h10.right
  simp only [be16_length, Nat.zero_add, Nat.reduceAdd] at h2 h4 h6 h8 h10 h12
  have hty := h12.right
  have hcl := hty.right
  have hadd := hcl.right
  simp only [be16_length] at hcl hadd
  have hlen : ¬ msg.length < 12 := Nat.not_lt.mpr h10.left.le
  unfold parse parseFuel
  simp only [Parser.start, hlen, if_false, h0.left.rd16 hid, h2.left.rd16 hfl,
    h4.left.rd16 (n := 1) (by decide), h6.left.rd16 (n := 0) (by decide),
    h8.left.rd16 (n := 0) (by decide), h10.left.rd16 hnpre]
  rw [question_ok
    (p := { msg := msg, id := m.id, bits := m.flags, qd := 1, an := 0, ns := 0, ar := m.pre.length + 1,
            sec := 2, off := 12, index := 0, rhValid := false, rh := {} })
    rfl Nat.zero_ne_one (unpackName_at m.qname h12.left hqn) (hty.left.unpackU16 hqt) (hcl.left.unpackU16 hqc)]
  simp only
  -- no further question, no answer or authority record (`by rfl`: run once `rw` has found the parser)
  rw [skipAllQuestions_none_left _ (by rfl) (by rfl)]
  simp only
  rw [skipAllResources_none_left 3 _ (by rfl) (by rfl) (by rfl)]
  simp only
  rw [skipAllResources_none_left 4 _ (by rfl) (by rfl) (by rfl)]
  simp only
  rw [hfront]
  exact parseLoop_at m.udpSize m.optTTL m.opts hudp httl hopts hol m.pre skipFuel _ _ rfl rfl hadd hpre
    (Nat.lt_trans (Nat.lt_of_succ_lt hnpre) (by decide)) (by rw [Nat.zero_add]; exact Nat.lt_succ_self _)

theorem Parser.count_lt {p : Parser} {n : Nat} (hqd : p.qd < n) (han : p.an < n) (hns : p.ns < n) (har : p.ar < n)
    (h0 : 0 < n) (sec : Nat) : p.count sec < n := by
  unfold Parser.count
  repeat' split
  all_goals assumption

theorem parseLoop_payload_length (fuel : Nat) (p : Parser) (q : Query) (st : Stage) (q' : Query)
    (h : parseLoop fuel p q = .done st q') : q'.payload.length = q.payload.length := by
  -- every way out of the loop returns `q` itself, except the one through `applyOpts`
  fun_induction parseLoop fuel p q with
  | case1 => cases h
  | case2 => cases h; rfl
  | case3 => cases h; rfl
  | case4 => cases h; rfl
  | case5 => cases h; rw [applyOpts_payload, foldl_stepPayload_length]
  | case6 => cases h; rfl
  | case7 _ _ _ _ _ _ _ _ _ ih => exact ih h

theorem parse_payload_length (payload : Bytes) (st : Stage) (q : Query) (h : parse payload = .done st q) :
    q.payload.length = payload.length := by
  unfold parse parseFuel at h
  dsimp only at h
  -- one `split` for each `match` of `parseFuel`: the early exits return the payload as it came
  split at h
  · cases h; rfl
  · split at h
    · cases h; rfl
    · split at h
      · cases h
      · split at h
        · cases h
        · split at h
          · cases h
          · exact parseLoop_payload_length _ _ _ _ _ h

end NV
