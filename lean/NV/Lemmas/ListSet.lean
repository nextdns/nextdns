/-
  NV.Lemmas.ListSet — the systems of threads (NV.Listen, NV.Sem) replace one entry of a list per step: what that
  does to a property of all entries (both), and to a `Nat`-valued sum over them (the measures of NV.Props.C16 on
  the listeners; the units held in NV.Sem are an `Int`-valued sum with lemmas of its own, `heldSum_set`).
-/
namespace NV.ListSet

theorem forall_mem_set {α} {P : α → Prop} {ls : List α} {y : α} (h : ∀ x ∈ ls, P x) (hy : P y) (i : Nat) :
    ∀ x ∈ ls.set i y, P x :=
  fun x hx => (List.mem_or_eq_of_mem_set hx).elim (h x) (· ▸ hy)

theorem sum_map_set {α} (f : α → Nat) {ls : List α} {i : Nat} {l : α} (l' : α) (h : ls[i]? = some l) :
    ((ls.set i l').map f).sum + f l = (ls.map f).sum + f l' := by
  induction ls generalizing i with
  | nil => cases h
  | cons a as ih =>
    cases i with
    | zero => cases h; simp only [List.set_cons_zero, List.map_cons, List.sum_cons]; ac_rfl
    | succ k => simp only [List.set_cons_succ, List.map_cons, List.sum_cons, Nat.add_assoc, ih h]

end NV.ListSet
