/-
  The functions of NV.Model.Forwarder in terms of core's list operations (results in their own
  right), and the lemmas Props/C10 is proved from.

  Case folding is pushed outwards first (`matchD_eq_matchExact`: the repaired matcher is the byte-exact one on
  folded texts), so everything about label boundaries is proved once, for `matchExact`, by list reasoning on
  the pieces between the dots (core's `List.splitOn`, a left inverse of `render`).
-/
import NV.Model.Forwarder
import NV.Lemmas.ListText
namespace NV.Fwd
open NV

instance (ls : List Bytes) : Decidable (WF ls) := inferInstanceAs (Decidable (∀ l ∈ ls, l ≠ [] ∧ dot ∉ l))

theorem lowerB_idem (b : UInt8) : lowerB (lowerB b) = lowerB b := by
  unfold lowerB
  split
  next h =>  -- an upper-case letter moved by 32 is not one
    apply if_neg
    simp only [UInt8.le_iff_toNat_le, UInt8.toNat_add, UInt8.toNat_ofNat] at h ⊢
    omega
  next => rfl

theorem lowerB_eq_dot (b : UInt8) : lowerB b = dot ↔ b = dot := by
  unfold lowerB dot
  split
  next h =>  -- neither an upper-case letter nor its lower-case form is the dot
    simp only [UInt8.le_iff_toNat_le, ← UInt8.toNat_inj, UInt8.toNat_add, UInt8.toNat_ofNat] at h ⊢
    omega
  next => rfl

@[simp] theorem lowerB_dot : lowerB dot = dot := rfl

@[simp] theorem lower_nil : lower [] = [] := rfl
@[simp] theorem lower_cons (b : UInt8) (s : Bytes) : lower (b :: s) = lowerB b :: lower s := rfl
@[simp] theorem lower_append (a b : Bytes) : lower (a ++ b) = lower a ++ lower b := List.map_append
@[simp] theorem lower_length (s : Bytes) : (lower s).length = s.length := List.length_map _
@[simp] theorem lower_lower (s : Bytes) : lower (lower s) = lower s := by
  simp [lower, lowerB_idem]

theorem lower_eq_nil (s : Bytes) : lower s = [] ↔ s = [] := List.map_eq_nil_iff

theorem dot_mem_lower (s : Bytes) : dot ∈ lower s ↔ dot ∈ s := by
  simp [lower, lowerB_eq_dot]

theorem equalFold_eq (a b : Bytes) : equalFold a b = (lower a == lower b) := by
  induction a generalizing b with
  | nil => cases b <;> rfl
  | cons x a ih => cases b with
    | nil => rfl
    | cons y b => simp [equalFold, ih]

theorem hasSuffix_iff (s suf : Bytes) : hasSuffix s suf = true ↔ suf <:+ s := by
  unfold hasSuffix
  simp only [Bool.and_eq_true, decide_eq_true_eq, beq_iff_eq]
  exact ⟨fun h => List.suffix_iff_eq_drop.2 h.2.symm,
    fun h => ⟨h.length_le, (List.suffix_iff_eq_drop.1 h).symm⟩⟩

theorem hasSuffixFold_eq (s suf : Bytes) : hasSuffixFold s suf = hasSuffix (lower s) (lower suf) := by
  unfold hasSuffixFold hasSuffix
  rw [equalFold_eq, lower_length, lower_length]
  unfold lower; rw [List.map_drop]

theorem matchD_eq_matchExact (d n : Bytes) : matchD d n = matchExact (lower d) (lower n) := by
  unfold matchD matchExact isSubDomain
  rw [hasSuffixFold_eq, equalFold_eq, lower_cons, lowerB_dot]
  -- what is left: `lower d ≠ []` for `d ≠ []`, and the inequality test spelt `decide (_ ≠ _)` for `!(_ == _)`
  simp only [ne_eq, lower_eq_nil, decide_not, Bool.beq_eq_decide_eq]

theorem matchExact_iff (d n : Bytes) : matchExact d n = true ↔ d = [] ∨ n = d ∨ dot :: d <:+ n := by
  simp [matchExact, ← hasSuffix_iff]

@[simp] theorem render_nil : render [] = [] := rfl
@[simp] theorem render_cons (l : Bytes) (ls : List Bytes) : render (l :: ls) = l ++ dot :: render ls := by
  simp [render]
@[simp] theorem render_append (a b : List Bytes) : render (a ++ b) = render a ++ render b :=
  List.flatMap_append

theorem lower_render (ls : List Bytes) : lower (render ls) = render (ls.map lower) := by
  induction ls with
  | nil => rfl
  | cons l ls ih => simp [ih]

theorem dotfree_map_lower {ls : List Bytes} (h : ∀ l ∈ ls, dot ∉ l) : ∀ l ∈ ls.map lower, dot ∉ l :=
  List.forall_mem_map.2 fun l hl => mt (dot_mem_lower l).1 (h l hl)

theorem render_eq_nil (ls : List Bytes) : render ls = [] ↔ ls = [] := by
  cases ls <;> simp

/-- the text between the dots is read off by core's `List.splitOn`; the last piece is what follows the last dot -/
theorem splitOn_render (ls : List Bytes) (h : ∀ l ∈ ls, dot ∉ l) : (render ls).splitOn dot = ls ++ [[]] :=
  ListText.splitOn_flatMap_sep dot ls h

theorem render_inj (a b : List Bytes) (ha : ∀ l ∈ a, dot ∉ l) (hb : ∀ l ∈ b, dot ∉ l)
    (h : render a = render b) : a = b :=
  ListText.flatMap_sep_inj dot ha hb h

theorem render_ends_dot (pre : List Bytes) (h : pre ≠ []) : ∃ x, render pre = x ++ [dot] := by
  rw [← List.dropLast_concat_getLast h]
  exact ⟨render pre.dropLast ++ pre.getLast h, by simp⟩

theorem matchExact_render (dl nl : List Bytes) (hd : ∀ l ∈ dl, dot ∉ l) (hn : ∀ l ∈ nl, dot ∉ l) :
    matchExact (render dl) (render nl) = dl.isSuffixOf nl := by
  rw [Bool.eq_iff_iff, matchExact_iff, List.isSuffixOf_iff_suffix, render_eq_nil]
  constructor
  · rintro (rfl | h | ⟨x, h⟩)
    · exact List.nil_suffix
    · rw [render_inj nl dl hn hd h]; exact List.suffix_refl _
    · -- the rule's text stands after a dot of the name's text: read the labels off both sides
      have hp := List.splitOn_append_cons_self (a := dot) x (render dl)
      rw [h, splitOn_render nl hn, splitOn_render dl hd, ← List.append_assoc] at hp
      exact ⟨x.splitOn dot, (List.append_cancel_right hp).symm⟩
  · rintro ⟨pre, rfl⟩
    by_cases hp : pre = []
    · exact .inr (.inl (by rw [hp]; rfl))
    · -- the text of the name's extra labels ends with the dot that `matchExact` wants in front of the rule's text
      obtain ⟨x, hx⟩ := render_ends_dot pre hp
      exact .inr (.inr ⟨x, by simp [hx]⟩)

theorem absName_eq_render (ls : List Bytes) : absName ls = render (if ls = [] then [[]] else ls) := by
  unfold absName; split <;> rfl

theorem labelSuffix_subset {dl nl : List Bytes} (h : labelSuffix dl nl = true) :
    dl.map lower ⊆ nl.map lower :=
  (List.isSuffixOf_iff_suffix.1 h).subset

theorem nil_not_mem_lower {ls : List Bytes} (h : WF ls) : [] ∉ ls.map lower := fun hm => by
  obtain ⟨x, hx, hx0⟩ := List.mem_map.1 hm
  exact (h x hx).1 ((lower_eq_nil x).1 hx0)

theorem dotfree_absName {ls : List Bytes} (h : WF ls) : ∀ l ∈ (if ls = [] then [[]] else ls), dot ∉ l := by
  split
  · simp
  · exact fun l hl => (h l hl).2

theorem find?_congr {α} {p q : α → Bool} {l : List α} (h : ∀ x ∈ l, p x = q x) :
    l.find? p = l.find? q := by
  rw [← List.head?_filter, ← List.head?_filter, List.filter_congr h]

theorem getFw_eq_find (fs : List Fw) (n : Bytes) :
    getFw fs n = (fs.find? fun f => matchD f.domain n).map (·.up) := by
  induction fs with
  | nil => rfl
  | cons f fs ih => unfold getFw; rw [List.find?_cons]; cases matchD f.domain n <;> simp [ih]

theorem getFw_append (a b : List Fw) (n : Bytes) : getFw (a ++ b) n = (getFw a n).or (getFw b n) := by
  simp only [getFw_eq_find, List.find?_append]
  cases List.find? (fun f => matchD f.domain n) a <;> rfl

theorem getFw_eq_none (fs : List Fw) (n : Bytes) :
    getFw fs n = none ↔ ∀ f ∈ fs, matchD f.domain n = false := by
  simp [getFw_eq_find]

theorem get_append_of_none (a b : List Fw) (n : Bytes) (h : ∀ f ∈ a, matchD f.domain n = false) :
    getFw (a ++ b) n = getFw b n := by
  rw [getFw_append, (getFw_eq_none a n).2 h]; rfl

end NV.Fwd
