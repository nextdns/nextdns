/-
  NV.Lemmas.Config — what the C17 theorems (NV.Props.C17) rest on.  `LoadConfig` and `SaveConfig` are seen one option
  at a time: a load is `loadAt` option by option (`applyLines_iff`), a saved file gives each option the texts of its
  entry (`valsOf_saveLines`), and `Set`ting those on a table default gives the entry back (`foldVals_entryValues`).
  `Parse` is taken stage by stage (`parseCmd_some`): every stage keeps the invariant `WF` except the migration, which
  keeps it only where it does nothing (`migrate_noop`).  What is needed of the concrete table is evaluated once (`table_ok`).
-/
import NV.Model.Config
import NV.Lemmas.ListText
namespace NV.Config
open NV.ListText

def noSp (s : Str) : Prop := ∀ c ∈ s, isSpace c = false

/-- `strings.TrimSpace(s) == s`; by unfolding, `Trimmed isSpace s` of NV.Lemmas.ListText, whose `Trimmed.*` lemmas
therefore prove `trimmed` facts as they stand -/
def trimmed (s : Str) : Prop :=
  (∀ c, s.head? = some c → isSpace c = false) ∧ (∀ c, s.getLast? = some c → isSpace c = false)

/-- what `LoadConfig` needs of a name to read its line back (a leading '#' makes the line a comment) -/
def nameOk (n : Str) : Prop := n ≠ [] ∧ noSp n ∧ n.head? ≠ some '#'

instance (s : Str) : Decidable (noSp s) := by unfold noSp; infer_instance
instance (s : Str) : Decidable (trimmed s) := by unfold trimmed; infer_instance
instance (n : Str) : Decidable (nameOk n) := by unfold nameOk; infer_instance

theorem trimLeft_of_head (s : Str) (h : ∀ c, s.head? = some c → isSpace c = false) : trimLeft s = s :=
  dropWhile_of_head? h

/-- through this equation the facts about `trimRight` are facts about `List.dropWhile` -/
theorem trimRight_eq : ∀ s : Str, trimRight s = (trimLeft s.reverse).reverse
  | [] => rfl
  | c :: cs => by
    rw [trimRight, trimRight_eq cs, trimLeft, trimLeft, List.reverse_cons, List.dropWhile_append]
    cases cs.reverse.dropWhile isSpace with
    | nil => cases h : isSpace c <;> simp [h]
    | cons y ys => simp

theorem trimRight_of_last (s : Str) (h : ∀ c, s.getLast? = some c → isSpace c = false) : trimRight s = s := by
  rw [trimRight_eq, trimLeft_of_head _ (by simpa using h), List.reverse_reverse]

theorem trim_of_trimmed (s : Str) (h : trimmed s) : trim s = s := by
  unfold trim; rw [trimRight_of_last s h.2, trimLeft_of_head s h.1]

theorem getLast?_trimRight (s : Str) (c : Char) (h : (trimRight s).getLast? = some c) : isSpace c = false := by
  rw [trimRight_eq, List.getLast?_reverse] at h
  exact head?_dropWhile h

theorem trimmed_trim (s : Str) : trimmed (trim s) :=
  ⟨fun _ => head?_dropWhile, fun c h => getLast?_trimRight s c (getLast?_dropWhile h)⟩

theorem mem_trimRight (s : Str) (c : Char) (h : c ∈ trimRight s) : c ∈ s := by
  rw [trimRight_eq, List.mem_reverse] at h
  exact List.mem_reverse.mp (List.dropWhile_subset _ h)

theorem mem_trim (s : Str) (c : Char) (h : c ∈ trim s) : c ∈ s :=
  mem_trimRight s c (List.dropWhile_subset _ h)

theorem trimRight_append (a b : Str) :
    trimRight (a ++ b) = if trimRight b = [] then trimRight a else a ++ trimRight b := by
  simp only [trimRight_eq, trimLeft, List.reverse_append, List.dropWhile_append, List.reverse_eq_nil_iff,
    List.isEmpty_iff]
  split <;> simp

theorem trimRight_append_nonempty : ∀ (a b : Str), trimRight b ≠ [] → trimRight (a ++ b) = a ++ trimRight b :=
  fun a b h => by rw [trimRight_append, if_neg h]

theorem trimmed_of_noSp (s : Str) (h : noSp s) : trimmed s := Trimmed.of_forall h

theorem trimmed_append {a b : Str} (ha : trimmed a) (hane : a ≠ []) (hb : trimmed b) (hbne : b ≠ []) :
    trimmed (a ++ b) :=
  Trimmed.append ha.1 hane hb.2 hbne

theorem trimmed_kv {a b : Str} (ha : trimmed a) (hne : a ≠ []) (hb : trimmed b) : trimmed (a ++ '=' :: b) :=
  trimmed_append ha hne (Trimmed.cons rfl hb.2) (List.cons_ne_nil _ _)

theorem splitAt1_none (c : Char) : ∀ (s : Str), c ∉ s → splitAt1 c s = none
  | [], _ => rfl
  | x :: xs, h => by
    rw [List.mem_cons, not_or] at h
    simp [splitAt1, Ne.symm h.1, splitAt1_none c xs h.2]

theorem splitAt1_append (c : Char) : ∀ (a b : Str), c ∉ a → splitAt1 c (a ++ c :: b) = some (a, b)
  | [], b, _ => by simp [splitAt1]
  | x :: xs, b, h => by
    rw [List.mem_cons, not_or] at h
    simp [splitAt1, Ne.symm h.1, splitAt1_append c xs b h.2]

theorem splitAt1_eq_none {c : Char} {s : Str} : splitAt1 c s = none ↔ c ∉ s := by
  refine ⟨fun h m => ?_, splitAt1_none c s⟩
  obtain ⟨a, b, rfl, ha⟩ := List.eq_append_cons_of_mem m
  rw [splitAt1_append c a b ha] at h; cases h

theorem splitAt1_eq_some {c : Char} {s a b : Str} : splitAt1 c s = some (a, b) ↔ s = a ++ c :: b ∧ c ∉ a := by
  refine ⟨fun h => ?_, fun ⟨e, ha⟩ => e ▸ splitAt1_append c a b ha⟩
  by_cases m : c ∈ s
  · obtain ⟨a', b', rfl, ha'⟩ := List.eq_append_cons_of_mem m
    rw [splitAt1_append c a' b' ha'] at h; cases h; exact ⟨rfl, ha'⟩
  · rw [splitAt1_none c s m] at h; cases h

theorem digitVal_digitChar (d : Nat) (h : d < 10) : digitVal (digitChar d) = some d := by
  have : ∀ d : Fin 10, digitVal (digitChar d.val) = some d.val := by decide
  exact this ⟨d, h⟩

theorem isSpace_digitChar (d : Nat) (h : d < 10) : isSpace (digitChar d) = false := by
  have : ∀ d : Fin 10, isSpace (digitChar d.val) = false := by decide
  exact this ⟨d, h⟩

theorem parseDecAux_snoc : ∀ (a : Str) (acc : Nat) (c : Char),
    parseDecAux acc (a ++ [c]) = (parseDecAux acc a).bind fun n => (digitVal c).map (n * 10 + ·)
  | [], acc, c => by simp [parseDecAux]; cases digitVal c <;> rfl
  | x :: xs, acc, c => by
    simp only [List.cons_append, parseDecAux]
    cases digitVal x with
    | none => rfl
    | some d => exact parseDecAux_snoc xs (acc * 10 + d) c

theorem fmtDec_noSp (n : Nat) : noSp (fmtDec n) := by
  induction n using fmtDec.induct with
  | case1 n h => rw [fmtDec, dif_pos h]; intro c hc; simp at hc; exact hc ▸ isSpace_digitChar n h
  | case2 n h ih =>
    rw [fmtDec, dif_neg h]; intro c hc
    rcases List.mem_append.mp hc with hc | hc
    · exact ih c hc
    · simp at hc; exact hc ▸ isSpace_digitChar _ (by omega)

theorem parseDecAux_fmtDec (n : Nat) : parseDecAux 0 (fmtDec n) = some n := by
  induction n using fmtDec.induct with
  | case1 n h => simp [fmtDec, h, parseDecAux, digitVal_digitChar n h]
  | case2 n h ih =>
    rw [fmtDec, dif_neg h, parseDecAux_snoc, ih, digitVal_digitChar _ (by omega)]
    exact congrArg some (Nat.div_add_mod' n 10)

theorem parseDec_fmtDec (n : Nat) : parseDec (fmtDec n) = some n := by
  have : fmtDec n ≠ [] := by rw [fmtDec]; split <;> simp
  rw [parseDec, if_neg this, parseDecAux_fmtDec]

theorem parseUint_fmtDec (bits n : Nat) (h : n < 2 ^ bits) : parseUint bits (fmtDec n) = some n := by
  simp [parseUint, parseDec_fmtDec, h]

theorem parseUint_lt (bits : Nat) (s : Str) (n : Nat) (h : parseUint bits s = some n) : n < 2 ^ bits := by
  unfold parseUint at h
  split at h
  · cases h
  · split at h
    · rename_i hlt; cases h; exact hlt
    · cases h

theorem parseLine_fmtLine_trim (n v : Str) (hn : nameOk n) : parseLine (fmtLine (n, v)) = some (n, trim v) := by
  obtain ⟨hne, hsp, hhash⟩ := hn
  have hsp' : ' ' ∉ n := fun m => absurd (hsp ' ' m) (by decide)
  have htr := trimmed_of_noSp n hsp
  -- trimmed on the right, a blank value takes the separating blank with it
  have hr : trimRight (n ++ ' ' :: v) = if trimRight v = [] then n else n ++ ' ' :: trimRight v := by
    rw [List.append_cons, trimRight_append, trimRight_append n [' '], if_pos (show trimRight [' '] = [] from rfl),
      trimRight_of_last n htr.2, ← List.append_cons]
  simp only [parseLine, fmtLine, trim, hr]
  split
  · -- the line is the bare name; it is read back with the empty value
    rename_i hv
    rw [trimLeft_of_head n htr.1, if_neg (by simp [hne, hhash]), splitAt1_none ' ' n hsp', hv]; rfl
  · -- the cut is at the separating blank; trimming `trimRight v` on the right again changes nothing
    obtain ⟨x, xs, rfl⟩ := List.exists_cons_of_ne_nil hne
    rw [trimLeft_of_head _ (fun c hc => hsp c (by simp at hc; simp [hc])), if_neg (by simpa using hhash),
      splitAt1_append ' ' _ _ hsp']
    simp only [trimRight_of_last _ (getLast?_trimRight v)]

theorem filterMap_parseLine_fmtLine : ∀ (ls : List Line), (∀ l ∈ ls, nameOk l.1 ∧ trimmed l.2) →
    (ls.map fmtLine).filterMap parseLine = ls
  | [], _ => rfl
  | l :: ls, h => by
    have h1 := h l (by simp)
    rw [List.map_cons, List.filterMap_cons, parseLine_fmtLine_trim l.1 l.2 h1.1, trim_of_trimmed l.2 h1.2,
      filterMap_parseLine_fmtLine ls (fun x hx => h x (List.mem_cons_of_mem _ hx))]

theorem parseLine_trimmed (raw : Str) (l : Line) (h : parseLine raw = some l) : trimmed l.2 := by
  unfold parseLine at h
  simp only at h
  split at h
  · cases h
  · split at h
    · cases h; exact (by decide : trimmed [])
    · cases h; exact trimmed_trim _

theorem scanLines_go_line : ∀ (l rest cur : Str), '\n' ∉ l →
    scanLines.go (l ++ '\n' :: rest) cur = scanLines.dropCR (cur.reverse ++ l) :: scanLines.go rest []
  | [], rest, cur, _ => by simp [scanLines.go]
  | x :: xs, rest, cur, h => by
    rw [List.mem_cons, not_or] at h
    simp [scanLines.go, Ne.symm h.1, scanLines_go_line xs rest (x :: cur) h.2]

theorem scanLines_serialize : ∀ (ls : List Str), (∀ l ∈ ls, '\n' ∉ l ∧ l.getLast? ≠ some '\r') →
    scanLines (serialize ls) = ls
  | [], _ => by simp [scanLines, serialize, scanLines.go]
  | l :: ls, h => by
    have ih := scanLines_serialize ls (fun x hx => h x (List.mem_cons_of_mem _ hx))
    have hl := h l (by simp)
    unfold scanLines at ih ⊢
    simp only [serialize, List.flatMap_cons, List.append_assoc, List.singleton_append] at ih ⊢
    rw [scanLines_go_line l _ [] hl.1]
    simp only [List.reverse_nil, List.nil_append, scanLines.dropCR, hl.2, if_false]
    rw [ih]

section SetBy
variable {α κ : Type} [DecidableEq κ] (key : α → κ)

theorem setBy_of_not_mem : ∀ (l : List α) (x : α), key x ∉ l.map key → setBy key l x = l ++ [x]
  | [], _, _ => rfl
  | y :: ys, x, h => by
    rw [List.map_cons, List.mem_cons, not_or] at h
    simp [setBy, h.1, setBy_of_not_mem ys x h.2]

theorem setBy_map_key_of_mem : ∀ (l : List α) (x : α), key x ∈ l.map key → (setBy key l x).map key = l.map key
  | [], _, h => by simp at h
  | y :: ys, x, h => by
    by_cases e : key x = key y
    · simp [setBy, e]
    · rw [List.map_cons, List.mem_cons, or_iff_right e] at h
      simp [setBy, e, setBy_map_key_of_mem ys x h]

theorem setBy_keys_nodup (l : List α) (x : α) (h : (l.map key).Nodup) : ((setBy key l x).map key).Nodup := by
  by_cases m : key x ∈ l.map key
  · rw [setBy_map_key_of_mem key l x m]; exact h
  · rw [setBy_of_not_mem key l x m, List.map_append]
    exact (List.perm_append_singleton _ _).nodup_iff.mpr (List.nodup_cons.mpr ⟨m, h⟩)

theorem setBy_mem : ∀ (l : List α) (x y : α), y ∈ setBy key l x → y = x ∨ y ∈ l
  | [], x, y, h => by simpa [setBy] using h
  | z :: zs, x, y, h => by
    unfold setBy at h
    split at h
    · exact (List.mem_cons.mp h).imp_right (List.mem_cons_of_mem _)
    · rcases List.mem_cons.mp h with rfl | h
      · simp
      · exact (setBy_mem zs x y h).imp_right (List.mem_cons_of_mem _)

theorem setBy_inv (P : α → Prop) (l : List α) (x : α) (hnd : (l.map key).Nodup) (hl : ∀ y ∈ l, P y) (hx : P x) :
    ((setBy key l x).map key).Nodup ∧ ∀ y ∈ setBy key l x, P y :=
  ⟨setBy_keys_nodup key l x hnd, fun y hy => (setBy_mem key l x y hy).elim (· ▸ hx) (hl y)⟩

theorem foldl_setBy_append : ∀ (l init : List α), ((init ++ l).map key).Nodup →
    l.foldl (setBy key) init = init ++ l
  | [], init, _ => by simp
  | x :: xs, init, h => by
    have hx : key x ∉ init.map key := by
      intro m
      rw [List.map_append, List.nodup_append] at h
      exact h.2.2 _ m _ (by simp) rfl
    rw [List.foldl_cons, setBy_of_not_mem key init x hx, foldl_setBy_append xs (init ++ [x]) (by simpa using h),
      List.append_assoc, List.singleton_append]

end SetBy

/-- two lists have the same members, in a form that evaluates -/
theorem mem_iff_of_all {α : Type} [DecidableEq α] {a b : List α} (h : (a.all (· ∈ b) && b.all (· ∈ a)) = true)
    (x : α) : x ∈ a ↔ x ∈ b := by
  simp only [Bool.and_eq_true, List.all_eq_true, decide_eq_true_eq] at h
  exact ⟨h.1 x, h.2 x⟩

/-- What the theorems assume about the Go standard library behind `Env`:
  * `time.ParseDuration (d.String()) = d`, and `d.String()` has no surrounding white space;
  * a condition accepted by `newConfig` prints (`IPNet.String`, `HardwareAddr.String`, the interface
    name) as a non-empty text without '=' and without surrounding white space that is classified as
    the same condition again (for interfaces: the interface still exists with the same addresses). -/
structure EnvLaws (env : Env) : Prop where
  dur_roundtrip : ∀ d, env.parseDur (env.fmtDur d) = some d
  dur_trimmed : ∀ d, trimmed (env.fmtDur d)
  cond_canon : ∀ t ck, env.classify t = some ck → env.classify (condText ck) = some ck
  cond_text : ∀ t ck, env.classify t = some ck →
    condText ck ≠ [] ∧ '=' ∉ condText ck ∧ trimmed (condText ck)

/-- `EnvLaws.cond_canon` ∧ `cond_text` -/
def wfCond (env : Env) (ck : CondK) : Prop :=
  env.classify (condText ck) = some ck ∧ condText ck ≠ [] ∧ '=' ∉ condText ck ∧ trimmed (condText ck)

instance (env : Env) (ck : CondK) : Decidable (wfCond env ck) := by unfold wfCond; infer_instance

/-- a profile as `newConfig` produces it from a trimmed text -/
def wfProfile (env : Env) (p : Profile) : Prop :=
  match p.cond with
  | none => '=' ∉ p.id ∧ trimmed p.id
  | some ck => trimmed p.id ∧ wfCond env ck

/-- a forwarder as `newResolver` produces it from a trimmed text -/
def wfFwd (env : Env) (f : Fwd) : Prop :=
  env.validAddr f.addr = true ∧ trimmed f.addr ∧
    (if f.domain = [] then '=' ∉ f.addr
     else '=' ∉ f.domain ∧ trimmed f.domain ∧ f.domain.getLast? = some '.')

theorem pstring_trimmed (env : Env) (p : Profile) (h : wfProfile env p) : trimmed (pstring p) := by
  obtain ⟨_ | ck, id⟩ := p
  · exact h.2
  · obtain ⟨hid, _, hne, _, htr⟩ := h
    exact trimmed_kv htr hne hid

theorem newConfig_pstring (env : Env) (p : Profile) (h : wfProfile env p) : newConfig env (pstring p) = some p := by
  obtain ⟨_ | ck, id⟩ := p
  · simp only [pstring, newConfig, splitAt1_none '=' id h.1]
  · obtain ⟨hid, hcl, _, heq, htr⟩ := h
    simp only [pstring, newConfig, splitAt1_append '=' _ _ heq, trim_of_trimmed _ htr, hcl, trim_of_trimmed _ hid]

theorem newConfig_wf (env : Env) (laws : EnvLaws env) (v : Str) (p : Profile) (hv : trimmed v)
    (h : newConfig env v = some p) : wfProfile env p := by
  unfold newConfig at h
  split at h
  · rename_i hs
    cases h
    exact ⟨splitAt1_eq_none.mp hs, hv⟩
  · rename_i c i hs
    split at h
    · cases h
    · rename_i ck hck
      cases h
      exact ⟨trimmed_trim i, laws.cond_canon _ ck hck, laws.cond_text _ ck hck⟩

theorem fqdn_last (s : Str) : (fqdn s).getLast? = some '.' := by
  unfold fqdn; split
  · assumption
  · simp

theorem fqdn_ne_nil (s : Str) : fqdn s ≠ [] := by
  intro h; have := fqdn_last s; rw [h] at this; cases this

theorem mem_fqdn {c : Char} {s : Str} (h : c ∈ fqdn s) : c ∈ s ∨ c = '.' := by
  unfold fqdn at h; split at h
  · exact .inl h
  · simpa using h

theorem fqdn_trimmed {s : Str} (h : trimmed s) : trimmed (fqdn s) := by
  unfold fqdn; split
  · exact h
  · by_cases he : s = []
    · subst he; decide
    · exact trimmed_append h he (by decide) (by simp)

theorem fstring_trimmed (env : Env) (f : Fwd) (h : wfFwd env f) : trimmed (fstring f) := by
  obtain ⟨_, ha, hd⟩ := h
  unfold fstring
  split
  · exact ha
  · rename_i hne
    rw [if_neg hne] at hd
    exact trimmed_kv hd.2.1 hne ha

theorem newResolver_fstring (env : Env) (f : Fwd) (h : wfFwd env f) : newResolver env (fstring f) = some f := by
  obtain ⟨domain, addr⟩ := f
  obtain ⟨hv, ha, hd⟩ := h
  simp only [fstring, newResolver] at hv ha hd ⊢
  split at hd
  · rename_i he
    subst he
    rw [if_pos rfl, splitAt1_none '=' addr hd]; simp only [hv, if_true]
  · rename_i he
    obtain ⟨heq, htr, hl⟩ := hd
    rw [if_neg he, splitAt1_append '=' _ _ heq]
    simp only [trim_of_trimmed _ ha, trim_of_trimmed _ htr, hv, if_true, fqdn, hl]

theorem newResolver_wf (env : Env) (v : Str) (f : Fwd) (hv : trimmed v) (h : newResolver env v = some f) : wfFwd env f := by
  unfold newResolver at h
  split at h
  · rename_i hs
    split at h
    · rename_i hva
      cases h
      exact ⟨hva, hv, by simpa using splitAt1_eq_none.mp hs⟩
    · cases h
  · rename_i d a hs
    split at h
    · rename_i hva
      cases h
      refine ⟨hva, trimmed_trim a, ?_⟩
      rw [if_neg (fqdn_ne_nil _)]
      refine ⟨fun m => ?_, fqdn_trimmed (trimmed_trim d), fqdn_last _⟩
      rcases mem_fqdn m with m | m
      · exact (splitAt1_eq_some.mp hs).2 (mem_trim d _ m)
      · cases m
    · cases h

/-- a value of the given kind as `Parse` leaves it (every text trimmed, list entries as their parsers
produce them, at most one list entry per `Set` class, uint within the storage side's range) -/
def WFVal (env : Env) : Kind → Val → Prop
  | .bool, v => ∃ b, v = .b b
  | .string, v => ∃ s, v = .s s ∧ trimmed s
  | .duration, v => ∃ d, v = .d d
  | .uint, v => ∃ n, v = .u n ∧ n < 2 ^ uintFileBits
  | .strings, v => ∃ l, v = .ss l ∧ l.Nodup ∧ ∀ s ∈ l, trimmed s
  | .profiles, v => ∃ l, v = .ps l ∧ (l.map pkey).Nodup ∧ ∀ p ∈ l, wfProfile env p
  | .forwarders, v => ∃ l, v = .fs l ∧ (l.map Fwd.domain).Nodup ∧ ∀ f ∈ l, wfFwd env f

/-- a default as the option table may have it: a well-formed scalar, or the empty list (`var c
config.Config`; the round trip of a list entry needs it to start empty) -/
def dfltOK : Kind → Val → Prop
  | .bool, .b _ => True
  | .string, .s v => trimmed v
  | .duration, .d _ => True
  | .uint, .u n => n < 2 ^ uintFileBits
  | .strings, d => d = .ss []
  | .profiles, d => d = .ps []
  | .forwarders, d => d = .fs []
  | _, _ => False

instance (k : Kind) (d : Val) : Decidable (dfltOK k d) := by unfold dfltOK; split <;> infer_instance

theorem dfltOK_wf (env : Env) {k : Kind} {d : Val} (h : dfltOK k d) : WFVal env k d := by
  unfold dfltOK at h
  split at h
  -- in the order of `dfltOK`; an empty list has no entry to check
  · exact ⟨_, rfl⟩
  · exact ⟨_, rfl, h⟩
  · exact ⟨_, rfl⟩
  · exact ⟨_, rfl, h⟩
  · exact ⟨[], h, .nil, nofun⟩
  · exact ⟨[], h, .nil, nofun⟩
  · exact ⟨[], h, .nil, nofun⟩
  · exact h.elim

theorem uint_bits_le : uintFlagBits ≤ uintFileBits := by decide

theorem setVal_wf (env : Env) (laws : EnvLaws env) (flagSide : Bool) (k : Kind) (old new : Val) (v : Str)
    (hold : WFVal env k old) (hv : trimmed v) (h : setVal env flagSide k old v = some new) : WFVal env k new := by
  cases k with
  | bool => obtain ⟨b, _, rfl⟩ := Option.map_eq_some_iff.mp h; exact ⟨b, rfl⟩
  | string => cases h; exact ⟨v, rfl, hv⟩
  | duration => obtain ⟨d, _, rfl⟩ := Option.map_eq_some_iff.mp h; exact ⟨d, rfl⟩
  | uint =>
    obtain ⟨n, hn, rfl⟩ := Option.map_eq_some_iff.mp h
    refine ⟨n, rfl, Nat.lt_of_lt_of_le (parseUint_lt _ _ _ hn) (Nat.pow_le_pow_right (by decide) ?_)⟩
    cases flagSide
    · exact Nat.le_refl _
    · exact uint_bits_le
  | strings =>
    obtain ⟨l, rfl, hnd, htr⟩ := hold
    cases h
    exact ⟨_, rfl, by simpa [Val.strs] using setBy_inv id trimmed l v (by simpa using hnd) htr hv⟩
  | profiles =>
    obtain ⟨l, rfl, hnd, hwf⟩ := hold
    obtain ⟨p, hp, rfl⟩ := Option.map_eq_some_iff.mp h
    exact ⟨_, rfl, setBy_inv pkey _ l p hnd hwf (newConfig_wf env laws v p hv hp)⟩
  | forwarders =>
    obtain ⟨l, rfl, hnd, hwf⟩ := hold
    obtain ⟨f, hf, rfl⟩ := Option.map_eq_some_iff.mp h
    exact ⟨_, rfl, setBy_inv Fwd.domain _ l f hnd hwf (newResolver_wf env v f hv hf)⟩

/-- whether `Set` fails depends on the text only, never on the current value -/
theorem setVal_none_indep (env : Env) (flagSide : Bool) (k : Kind) (old old' : Val) (v : Str)
    (h : setVal env flagSide k old v = none) : setVal env flagSide k old' v = none := by
  cases k <;> simp only [setVal, Option.map_eq_none_iff, reduceCtorEq] at h ⊢ <;> exact h

/-- successive `entry.Set(value)` on one storage entry -/
def foldVals (env : Env) (k : Kind) : Val → List Str → Option Val
  | v, [] => some v
  | v, x :: xs =>
    match setVal env false k v x with
    | none => none
    | some v' => foldVals env k v' xs

theorem foldVals_wf (env : Env) (laws : EnvLaws env) (k : Kind) : ∀ (xs : List Str) (v v' : Val), WFVal env k v →
    (∀ x ∈ xs, trimmed x) → foldVals env k v xs = some v' → WFVal env k v'
  | [], v, v', hv, _, h => by cases h; exact hv
  | x :: xs, v, v', hv, hx, h => by
    unfold foldVals at h
    split at h
    · cases h
    · rename_i v1 h1
      exact foldVals_wf env laws k xs v1 v' (setVal_wf env laws false k v v1 x hv (hx x (by simp)) h1)
        (fun y hy => hx y (List.mem_cons_of_mem _ hy)) h

/-- the three list kinds at once: `mk` is the kind's constructor of `Val`, `parse` / `print` its
`Set` / `String` pair -/
theorem foldVals_list {α κ : Type} [DecidableEq κ] (env : Env) (k : Kind) (mk : List α → Val) (key : α → κ)
    (parse : Str → Option α) (print : α → Str)
    (hset : ∀ init v, setVal env false k (mk init) v = (parse v).map fun x => mk (setBy key init x))
    (l : List α) (hnd : (l.map key).Nodup) (h : ∀ x ∈ l, parse (print x) = some x) :
    foldVals env k (mk []) (l.map print) = some (mk l) := by
  suffices ∀ init, foldVals env k (mk init) (l.map print) = some (mk (l.foldl (setBy key) init)) by
    rw [this, foldl_setBy_append key l [] (by simpa using hnd), List.nil_append]
  clear hnd
  induction l with
  | nil => intro _; rfl
  | cons x xs ih =>
    intro init
    rw [List.map_cons, foldVals, hset, h x (by simp)]
    exact ih (fun y hy => h y (List.mem_cons_of_mem _ hy)) _

theorem foldVals_entryValues (env : Env) (laws : EnvLaws env) (k : Kind) (v d : Val)
    (hw : WFVal env k v) (hd : dfltOK k d) : foldVals env k d (entryValues env v) = some v := by
  cases k with
  | bool =>
    obtain ⟨b, rfl⟩ := hw
    have ht : parseBoolFile (lit "true") = some true := by decide +kernel
    have hf : parseBoolFile (lit "false") = some false := by decide +kernel
    cases b <;> simp [entryValues, foldVals, setVal, fmtScalar, ht, hf]
  | string =>
    obtain ⟨s, rfl, _⟩ := hw
    simp [entryValues, foldVals, setVal, fmtScalar]
  | duration =>
    obtain ⟨n, rfl⟩ := hw
    simp [entryValues, foldVals, setVal, fmtScalar, laws.dur_roundtrip]
  | uint =>
    obtain ⟨n, rfl, hn⟩ := hw
    simp [entryValues, foldVals, setVal, fmtScalar, parseUint_fmtDec _ n hn]
  | strings =>
    obtain ⟨l, rfl, hnd, _⟩ := hw
    cases hd
    simpa [entryValues] using
      foldVals_list env .strings .ss id some id (fun _ _ => rfl) l (by simpa using hnd) (fun _ _ => rfl)
  | profiles =>
    obtain ⟨l, rfl, hnd, hwf⟩ := hw
    cases hd
    exact foldVals_list env .profiles .ps pkey (newConfig env) pstring (fun _ _ => rfl) l hnd
      (fun p hp => newConfig_pstring env p (hwf p hp))
  | forwarders =>
    obtain ⟨l, rfl, hnd, hwf⟩ := hw
    cases hd
    exact foldVals_list env .forwarders .fs Fwd.domain (newResolver env) fstring (fun _ _ => rfl) l hnd
      (fun f hf => newResolver_fstring env f (hwf f hf))

theorem entryValues_trimmed (env : Env) (laws : EnvLaws env) (k : Kind) (v : Val) (hw : WFVal env k v) :
    ∀ x ∈ entryValues env v, trimmed x := by
  intro x hx
  cases k with
  | bool =>
    obtain ⟨b, rfl⟩ := hw; cases List.mem_singleton.mp hx
    have : trimmed (lit "true") ∧ trimmed (lit "false") := by decide +kernel
    cases b
    · exact this.2
    · exact this.1
  | string => obtain ⟨s, rfl, hs⟩ := hw; cases List.mem_singleton.mp hx; exact hs
  | duration => obtain ⟨n, rfl⟩ := hw; cases List.mem_singleton.mp hx; exact laws.dur_trimmed n
  | uint => obtain ⟨n, rfl, _⟩ := hw; cases List.mem_singleton.mp hx; exact trimmed_of_noSp _ (fmtDec_noSp n)
  | strings => obtain ⟨l, rfl, _, h⟩ := hw; exact h x hx
  | profiles =>
    obtain ⟨l, rfl, _, h⟩ := hw
    obtain ⟨p, hp, rfl⟩ := List.mem_map.mp hx
    exact pstring_trimmed env p (h p hp)
  | forwarders =>
    obtain ⟨l, rfl, _, h⟩ := hw
    obtain ⟨f, hf, rfl⟩ := List.mem_map.mp hx
    exact fstring_trimmed env f (h f hf)

theorem findOptIn_of_nodup (tbl : List Opt) (hnd : (tbl.map Opt.nm).Nodup) (o : Opt) (ho : o ∈ tbl) :
    findOptIn tbl o.nm = some o := by
  obtain ⟨s, t, rfl⟩ := List.append_of_mem ho
  rw [List.map_append, List.nodup_append] at hnd
  -- an earlier entry named `o.nm` would make the name list repeat it
  exact List.find?_eq_some_iff_append.mpr ⟨beq_self_eq_true _, s, t, rfl, fun a ha => bne_iff_ne.mpr
    (hnd.2.2 _ (List.mem_map_of_mem ha) _ (List.mem_map_of_mem List.mem_cons_self))⟩

/-- all that is needed of the concrete table in one evaluation (turning the 21 `String` names into `Str` is
what costs): distinct names, each read back by `LoadConfig`; defaults as `dfltOK` asks; the rows that a proof
uses by name -/
theorem table_ok : (optTable.map Opt.nm).Nodup ∧ (∀ o ∈ optTable, nameOk o.nm ∧ dfltOK o.kind o.dflt) ∧
    ⟨"listen", .strings, .ss [], true⟩ ∈ optTable ∧ ⟨"config", .profiles, .ps [], true⟩ ∈ optTable ∧
    ⟨"profile", .profiles, .ps [], true⟩ ∈ optTable ∧ ⟨"forwarder", .forwarders, .fs [], true⟩ ∈ optTable := by
  decide +kernel

theorem table_names_ok (o : Opt) (h : o ∈ optTable) : nameOk o.nm := (table_ok.2.1 o h).1
theorem table_dflt (o : Opt) (h : o ∈ optTable) : dfltOK o.kind o.dflt := (table_ok.2.1 o h).2
theorem table_listen : ⟨"listen", .strings, .ss [], true⟩ ∈ optTable := table_ok.2.2.1
theorem table_config : ⟨"config", .profiles, .ps [], true⟩ ∈ optTable := table_ok.2.2.2.1
theorem table_profile : ⟨"profile", .profiles, .ps [], true⟩ ∈ optTable := table_ok.2.2.2.2.1
theorem table_forwarder : ⟨"forwarder", .forwarders, .fs [], true⟩ ∈ optTable := table_ok.2.2.2.2.2

theorem findOpt_eq_some {n : Str} {o : Opt} : findOpt n = some o ↔ o ∈ optTable ∧ o.nm = n := by
  refine ⟨fun h => ?_, fun ⟨ho, e⟩ => e ▸ findOptIn_of_nodup optTable table_ok.1 o ho⟩
  unfold findOpt findOptIn at h
  exact ⟨List.mem_of_find?_eq_some h, by simpa using List.find?_some h⟩

theorem kindOf_table (o : Opt) (h : o ∈ optTable) : kindOf o.nm = some o.kind := by
  simp [kindOf, findOpt_eq_some.mpr ⟨h, rfl⟩]

theorem defaultCfg_table (o : Opt) (h : o ∈ optTable) : defaultCfg o.nm = o.dflt := by
  simp [defaultCfg, findOpt_eq_some.mpr ⟨h, rfl⟩]

/-- the values a file gives to option `n`, in file order -/
def valsOf (n : Str) (ls : List Line) : List Str := (ls.filter (fun l => l.1 = n)).map (·.2)

theorem valsOf_cons (n : Str) (l : Line) (ls : List Line) :
    valsOf n (l :: ls) = if l.1 = n then l.2 :: valsOf n ls else valsOf n ls := by
  simp only [valsOf, List.filter_cons, decide_eq_true_eq]; split <;> rfl

theorem valsOf_append (n : Str) (a b : List Line) : valsOf n (a ++ b) = valsOf n a ++ valsOf n b := by
  simp [valsOf]

theorem mem_valsOf {n v : Str} {ls : List Line} : v ∈ valsOf n ls ↔ (n, v) ∈ ls := by
  simp only [valsOf, List.mem_map, List.mem_filter]
  constructor
  · rintro ⟨l, ⟨hl, hn⟩, rfl⟩
    simp at hn; subst hn; exact hl
  · intro h; exact ⟨(n, v), ⟨h, by simp⟩, rfl⟩

theorem valsOf_eq_nil {n : Str} {ls : List Line} : valsOf n ls = [] ↔ ∀ l ∈ ls, l.1 ≠ n := by
  simp [valsOf, List.filter_eq_nil_iff]

@[simp] theorem Cfg.set_same (c : Cfg) (n : Str) (v : Val) : (c.set n v) n = v := by simp [Cfg.set]
theorem Cfg.set_other (c : Cfg) (n m : Str) (v : Val) (h : m ≠ n) : (c.set n v) m = c m := by simp [Cfg.set, h]

theorem applyLine_eq_some {env : Env} {c c' : Cfg} {l : Line} : applyLine env c l = some c' ↔
    (kindOf l.1 = none ∧ c' = c) ∨
      ∃ k v, kindOf l.1 = some k ∧ setVal env false k (c l.1) l.2 = some v ∧ c' = c.set l.1 v := by
  unfold applyLine
  split
  · rename_i hk; simp [hk, eq_comm]
  · rename_i k hk; split <;> rename_i hv <;> simp [hk, hv, eq_comm]

theorem applyLine_eq_none {env : Env} {c : Cfg} {l : Line} : applyLine env c l = none ↔
    ∃ k, kindOf l.1 = some k ∧ setVal env false k (c l.1) l.2 = none := by
  unfold applyLine
  split
  · rename_i hk; simp [hk]
  · rename_i k hk; split <;> rename_i hv <;> simp [hk, hv]

/-- what the lines `ls` do to option `n` alone; by `applyLines_iff` a load is this, option by option,
and nothing more -/
def loadAt (env : Env) (c : Cfg) (ls : List Line) (n : Str) : Option Val :=
  match kindOf n with
  | none => some (c n)
  | some k => foldVals env k (c n) (valsOf n ls)

theorem loadAt_table {env : Env} {c : Cfg} {ls : List Line} {o : Opt} (h : o ∈ optTable) :
    loadAt env c ls o.nm = foldVals env o.kind (c o.nm) (valsOf o.nm ls) := by
  simp only [loadAt, kindOf_table o h]

theorem loadAt_untouched {env : Env} {c : Cfg} {ls : List Line} {n : Str} (h : valsOf n ls = []) :
    loadAt env c ls n = some (c n) := by
  unfold loadAt; rw [h]; split <;> rfl

theorem loadAt_congr {env : Env} {c d : Cfg} {ls ls' : List Line} {n : Str} (hc : c n = d n)
    (hl : valsOf n ls = valsOf n ls') : loadAt env c ls n = loadAt env d ls' n := by
  simp only [loadAt, hc, hl]

theorem loadAt_none_table {env : Env} {c : Cfg} {ls : List Line} {n : Str} (h : loadAt env c ls n = none) :
    ∃ o ∈ optTable, o.nm = n := by
  unfold loadAt at h
  split at h
  · cases h
  · rename_i k hk
    obtain ⟨o, hf, _⟩ := Option.map_eq_some_iff.mp hk
    exact ⟨o, findOpt_eq_some.mp hf⟩

theorem loadAt_cons {env : Env} {c c1 : Cfg} {l : Line} (ls : List Line) (h : applyLine env c l = some c1) (n : Str) :
    loadAt env c (l :: ls) n = loadAt env c1 ls n := by
  by_cases e : l.1 = n
  · subst e
    unfold loadAt
    rcases applyLine_eq_some.mp h with ⟨hk, rfl⟩ | ⟨k, v, hk, hv, rfl⟩
    · simp only [hk]
    · simp only [hk, valsOf_cons, if_true, foldVals, hv, Cfg.set_same]
  · refine loadAt_congr ?_ (by rw [valsOf_cons, if_neg e])
    rcases applyLine_eq_some.mp h with ⟨_, rfl⟩ | ⟨_, v, _, _, rfl⟩
    · rfl
    · exact (Cfg.set_other c l.1 n v (Ne.symm e)).symm

theorem loadAt_cons_none {env : Env} {c : Cfg} {l : Line} (ls : List Line) (h : applyLine env c l = none) :
    loadAt env c (l :: ls) l.1 = none := by
  obtain ⟨k, hk, hv⟩ := applyLine_eq_none.mp h
  simp only [loadAt, hk, valsOf_cons, if_true, foldVals, hv]

/-- a load succeeds with `loadAt` as its value at every option, or fails where some `loadAt` does -/
theorem applyLines_spec (env : Env) : ∀ (ls : List Line) (c : Cfg),
    (∃ c', applyLines env c ls = some c' ∧ ∀ n, loadAt env c ls n = some (c' n)) ∨
      applyLines env c ls = none ∧ ∃ n, loadAt env c ls n = none
  | [], c => .inl ⟨c, rfl, fun _ => loadAt_untouched rfl⟩
  | l :: ls, c => by
    unfold applyLines
    cases h1 : applyLine env c l with
    | none => exact .inr ⟨rfl, l.1, loadAt_cons_none ls h1⟩
    | some c1 => simp only [loadAt_cons ls h1]; exact applyLines_spec env ls c1

theorem applyLines_iff (env : Env) (ls : List Line) (c c' : Cfg) :
    applyLines env c ls = some c' ↔ ∀ n, loadAt env c ls n = some (c' n) := by
  rcases applyLines_spec env ls c with ⟨c'', h, spec⟩ | ⟨h, n, hn⟩ <;> rw [h]
  · rw [Option.some.injEq]
    exact ⟨fun e n => e ▸ spec n, fun h' => funext fun n => Option.some.inj ((spec n).symm.trans (h' n))⟩
  · exact ⟨nofun, fun h' => by rw [h' n] at hn; cases hn⟩

theorem loadLines_iff {env : Env} {raws : List Str} {c c' : Cfg} :
    loadLines env c raws = some c' ↔ ∀ n, loadAt env c (raws.filterMap parseLine) n = some (c' n) :=
  applyLines_iff env _ c c'

theorem applyLines_congr (env : Env) (c : Cfg) (ls1 ls2 : List Line) (h : ∀ n, valsOf n ls1 = valsOf n ls2) :
    applyLines env c ls1 = applyLines env c ls2 :=
  Option.ext fun c' => by simp only [applyLines_iff, loadAt_congr rfl (h _)]

/-- lines that name no option of the table are skipped, so a load succeeds as soon as its projections
on the table's options do -/
theorem applyLines_of_table {env : Env} {c : Cfg} {ls : List Line} {f : Opt → Val}
    (h : ∀ o ∈ optTable, loadAt env c ls o.nm = some (f o)) :
    ∃ c', applyLines env c ls = some c' ∧ ∀ o ∈ optTable, c' o.nm = f o := by
  rcases applyLines_spec env ls c with ⟨c', hc', spec⟩ | ⟨_, n, hn⟩
  · exact ⟨c', hc', fun o ho => Option.some.inj ((spec o.nm).symm.trans (h o ho))⟩
  · obtain ⟨o, ho, rfl⟩ := loadAt_none_table hn
    rw [h o ho] at hn; cases hn

def linesOf (env : Env) (c : Cfg) (o : Opt) : List Line := (entryValues env (stored c o)).map fun v => (o.nm, v)

theorem saveLines_eq (env : Env) (c : Cfg) : saveLines env c = optTable.flatMap (linesOf env c) := rfl

theorem mem_saveLines (env : Env) (c : Cfg) (l : Line) (h : l ∈ saveLines env c) :
    ∃ o ∈ optTable, l.1 = o.nm ∧ l.2 ∈ entryValues env (stored c o) := by
  simp only [saveLines, List.mem_flatMap, List.mem_map] at h
  obtain ⟨o, ho, v, hv, rfl⟩ := h
  exact ⟨o, ho, rfl, hv⟩

theorem valsOf_linesOf (env : Env) (c : Cfg) (o : Opt) (n : Str) :
    valsOf n (linesOf env c o) = if o.nm = n then entryValues env (stored c o) else [] := by
  split <;> simp [valsOf, linesOf, List.filter_map, Function.comp_def, *]

theorem valsOf_flatMap_linesOf (env : Env) (c : Cfg) (o : Opt) : ∀ (tbl : List Opt), (tbl.map Opt.nm).Nodup → o ∈ tbl →
    valsOf o.nm (tbl.flatMap (linesOf env c)) = entryValues env (stored c o)
  | x :: xs, hnd, h => by
    rw [List.map_cons, List.nodup_cons] at hnd
    rw [List.flatMap_cons, valsOf_append, valsOf_linesOf]
    rcases List.mem_cons.mp h with rfl | hm
    · have : valsOf o.nm (xs.flatMap (linesOf env c)) = [] := by
        rw [valsOf_eq_nil]; intro l hl e
        obtain ⟨y, hy, hl⟩ := List.mem_flatMap.mp hl
        obtain ⟨_, _, rfl⟩ := List.mem_map.mp hl
        exact hnd.1 (e ▸ List.mem_map_of_mem hy)
      rw [if_pos rfl, this, List.append_nil]
    · have hne : x.nm ≠ o.nm := fun e => hnd.1 (e ▸ List.mem_map_of_mem hm)
      rw [if_neg hne, valsOf_flatMap_linesOf env c o xs hnd.2 hm]; rfl

theorem valsOf_saveLines (env : Env) (c : Cfg) (o : Opt) (h : o ∈ optTable) :
    valsOf o.nm (saveLines env c) = entryValues env (stored c o) :=
  valsOf_flatMap_linesOf env c o optTable table_ok.1 h

theorem parseCmd_some {env : Env} {file : List Str} {args : List Arg} {c : Cfg} (h : parseCmd env file args = some c) :
    ∃ c1 c2 c4, applyArgs env defaultCfg args = some c1 ∧ loadLines env c1 file = some c2 ∧
      applyArgs env (migrate c2) (args.map renameArg) = some c4 ∧ c = fixListen c4 := by
  unfold parseCmd at h
  split at h
  · cases h
  · rename_i c1 h1
    split at h
    · cases h
    · rename_i c2 h2
      split at h
      · cases h
      · rename_i c4 h4; cases h; exact ⟨c1, c2, c4, h1, h2, h4, rfl⟩

/-- an accepted flag sets its option: a boolean one from the flag's own form (`-b`, `-b=false`), any other
through `Set` of its value -/
theorem applyArg_some {env : Env} {c c' : Cfg} {a : Arg} (h : applyArg env c a = some c') :
    ∃ o v, findOpt a.name = some o ∧ c' = c.set a.name v ∧
      ((o.kind = .bool ∧ ∃ b, v = .b b) ∨ setVal env true o.kind (c a.name) a.value = some v) := by
  unfold applyArg at h
  split at h
  · cases h
  · rename_i o ho
    refine ⟨o, ?_⟩
    split at h
    · rename_i hk
      split at h
      · cases h; exact ⟨_, ho, rfl, .inl ⟨hk, _, rfl⟩⟩
      · obtain ⟨b, _, rfl⟩ := Option.map_eq_some_iff.mp h; exact ⟨_, ho, rfl, .inl ⟨hk, _, rfl⟩⟩
      · cases h
    · split at h
      · cases h
      · obtain ⟨v, hv, rfl⟩ := Option.map_eq_some_iff.mp h; exact ⟨v, ho, rfl, .inr hv⟩

theorem applyArgs_inv {env : Env} (P : Cfg → Prop) (Q : Arg → Prop)
    (step : ∀ c a c', P c → Q a → applyArg env c a = some c' → P c') :
    ∀ (as : List Arg) (c c' : Cfg), P c → (∀ a ∈ as, Q a) → applyArgs env c as = some c' → P c'
  | [], c, c', hc, _, h => by cases h; exact hc
  | a :: as, c, c', hc, hq, h => by
    unfold applyArgs at h
    split at h
    · cases h
    · rename_i c1 h1
      exact applyArgs_inv P Q step as c1 c' (step c a c1 hc (hq a (by simp)) h1)
        (fun x hx => hq x (List.mem_cons_of_mem _ hx)) h

/-- every option holds a value of its kind as `Parse` leaves it -/
def WF (env : Env) (c : Cfg) : Prop := ∀ o ∈ optTable, WFVal env o.kind (c o.nm)

theorem WF_default (env : Env) : WF env defaultCfg := by
  intro o ho; rw [defaultCfg_table o ho]; exact dfltOK_wf env (table_dflt o ho)

theorem WF_set (env : Env) (c : Cfg) (o : Opt) (v : Val) (hwf : WF env c) (ho : o ∈ optTable)
    (hv : WFVal env o.kind v) : WF env (c.set o.nm v) := by
  intro o' ho'
  by_cases e : o'.nm = o.nm
  · -- one option per name: `o'` is `o`
    cases Option.some.inj ((findOpt_eq_some.mpr ⟨ho', e⟩).symm.trans (findOpt_eq_some.mpr ⟨ho, rfl⟩))
    simpa using hv
  · rw [Cfg.set_other c o.nm o'.nm v e]; exact hwf o' ho'

theorem applyArg_wf (env : Env) (laws : EnvLaws env) (c c' : Cfg) (a : Arg) (hwf : WF env c) (ha : trimmed a.value)
    (h : applyArg env c a = some c') : WF env c' := by
  obtain ⟨o, v, hf, rfl, hv⟩ := applyArg_some h
  obtain ⟨ho, hn⟩ := findOpt_eq_some.mp hf
  rw [← hn] at hv ⊢
  refine WF_set env c o v hwf ho ?_
  rcases hv with ⟨hk, b, rfl⟩ | hv
  · rw [hk]; exact ⟨b, rfl⟩
  · exact setVal_wf env laws true o.kind _ v a.value (hwf o ho) ha hv

theorem applyArgs_wf (env : Env) (laws : EnvLaws env) (as : List Arg) (c c' : Cfg) (hwf : WF env c)
    (ha : ∀ a ∈ as, trimmed a.value) (h : applyArgs env c as = some c') : WF env c' :=
  applyArgs_inv (WF env) (fun a => trimmed a.value) (fun c a c' => applyArg_wf env laws c c' a) as c c' hwf ha h

/-- each option's new value comes from `Set`s of trimmed texts (`parseLine_trimmed`) on its old one -/
theorem loadLines_wf (env : Env) (laws : EnvLaws env) (raws : List Str) (c c' : Cfg) (hwf : WF env c)
    (h : loadLines env c raws = some c') : WF env c' := by
  intro o ho
  have := loadLines_iff.mp h o.nm
  rw [loadAt_table ho] at this
  refine foldVals_wf env laws o.kind _ _ _ (hwf o ho) (fun x hx => ?_) this
  obtain ⟨raw, _, hr⟩ := List.mem_filterMap.mp (mem_valsOf.mp hx)
  exact parseLine_trimmed raw _ hr

theorem migrate_apply (c : Cfg) (n : Str) : migrate c n =
    if (c (lit "config")).profs = [] then c n
    else if n = lit "config" then .ps []
    else if n = lit "profile" then .ps ((c (lit "profile")).profs ++ (c (lit "config")).profs)
    else c n := by
  unfold migrate; split <;> rfl

theorem migrate_noop (c : Cfg) (h : (c (lit "config")).profs = []) : migrate c = c :=
  funext fun n => by rw [migrate_apply, if_pos h]

theorem renameArg_trimmed (a : Arg) (h : trimmed a.value) : trimmed (renameArg a).value := by
  unfold renameArg
  split
  · show trimmed (if a.value = lit "-config" then lit "-profile" else a.value)
    split
    · decide +kernel
    · exact h
  · exact h

theorem fixListen_apply (c : Cfg) (n : Str) :
    fixListen c n = if n = lit "listen" ∧ (c n).strs = [] then .ss [defaultListen] else c n := by
  unfold fixListen
  split
  · next h =>
    by_cases e : n = lit "listen"
    · subst e; rw [Cfg.set_same, if_pos ⟨rfl, h⟩]
    · rw [Cfg.set_other c _ n _ e, if_neg fun h' => e h'.1]
  · next h => rw [if_neg]; rintro ⟨rfl, h'⟩; exact h h'

theorem fixListen_wf (env : Env) (c : Cfg) (h : WF env c) : WF env (fixListen c) := by
  unfold fixListen
  split
  · have htr : trimmed defaultListen := by decide +kernel
    exact WF_set env c ⟨"listen", .strings, .ss [], true⟩ (.ss [defaultListen]) h table_listen
      ⟨[defaultListen], rfl, by simp, fun s hs => List.mem_singleton.1 hs ▸ htr⟩
  · exact h

theorem applyArg_other (env : Env) (c c' : Cfg) (a : Arg) (n : Str) (h : applyArg env c a = some c')
    (hn : n ≠ a.name) : c' n = c n := by
  obtain ⟨_, v, _, rfl, _⟩ := applyArg_some h
  exact Cfg.set_other c _ n v hn

theorem applyArgs_other (env : Env) (as : List Arg) (c c' : Cfg) (n : Str) (h : applyArgs env c as = some c')
    (hn : n ∉ as.map (·.name)) : c' n = c n :=
  applyArgs_inv (fun d => d n = c n) (fun a => n ≠ a.name)
    (fun d a d' hd hne h => (applyArg_other env d d' a n h hne).trans hd) as c c' rfl
    (fun _ ha e => hn (e ▸ List.mem_map_of_mem ha)) h

theorem loadLines_agree (env : Env) (raws : List Str) (c d c' d' : Cfg) (n : Str) (hcd : c n = d n)
    (hc : loadLines env c raws = some c') (hd : loadLines env d raws = some d') : c' n = d' n :=
  Option.some.inj ((loadLines_iff.mp hc n).symm.trans ((loadAt_congr hcd rfl).trans (loadLines_iff.mp hd n)))

theorem loadLines_untouched (env : Env) (raws : List Str) (c c' : Cfg) (n : Str)
    (hn : ∀ l ∈ raws.filterMap parseLine, l.1 ≠ n) (hc : loadLines env c raws = some c') : c' n = c n :=
  Option.some.inj ((loadLines_iff.mp hc n).symm.trans (loadAt_untouched (valsOf_eq_nil.mpr hn)))

theorem migrate_agree (c d : Cfg) (n : Str) (hn : c n = d n)
    (hcfg : n = lit "profile" → c (lit "config") = d (lit "config")) : migrate c n = migrate d n := by
  rw [migrate_apply, migrate_apply]
  by_cases e2 : n = lit "profile"
  · subst e2; rw [hcfg rfl, hn]
  · by_cases e1 : n = lit "config"
    · subst e1; rw [hn, if_pos rfl, if_pos rfl]
    · simp only [if_neg e1, if_neg e2, ite_self, hn]

theorem fixListen_agree (c d : Cfg) (n : Str) (hn : c n = d n) : fixListen c n = fixListen d n := by
  rw [fixListen_apply, fixListen_apply, hn]

end NV.Config
