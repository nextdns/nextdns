/-
  NV.Lemmas.Manager — the manager's operations and the states they reach (for C08/C09).  An election is
  `testLocked_eq`: `applyElect` on the endpoint its outcome installs.  Every operation is `exec`, a total
  function, behind the wait for `m.mu` (`step_eq`); `Inv` holds in every state the repaired variant
  reaches, so there the wait never blocks.
-/
import NV.Lemmas.Election
namespace NV.Mgr

theorem equalOpt_some_iff {x : Option Ep} {b : Ep} : equalOpt x (some b) = true ↔ ∃ a, x = some a ∧ a.key = b.key := by
  cases x <;> simp [equalOpt]

theorem equalOpt_refl (e : Ep) : equalOpt (some e) (some e) = true := by simp [equalOpt]

theorem reuse_some {st : St} {e : Option Ep} {a : Nat} (h : reuse? st e = some a) :
    st.active = some a ∧ equalOpt (st.heap a).ep e = true := by
  unfold reuse? at h
  split at h
  · next b hb =>
    split at h
    · next heq => cases h; exact ⟨hb, heq⟩
    · cases h
  · cases h

theorem reuse_none_iff (st : St) (e : Option Ep) :
    reuse? st e = none ↔ (st.active = none ∨ ∃ a, st.active = some a ∧ equalOpt (st.heap a).ep e = false) := by
  unfold reuse?
  cases st.active with
  | none => simp
  | some a => cases equalOpt (st.heap a).ep e <;> simp

theorem applyElect_reuse (cfg : Cfg) {st : St} {e : Option Ep} {a : Nat} (short : Bool) (h : reuse? st e = some a) :
    applyElect cfg st e short =
      ({ st with
          heap := upd st.heap a { st.heap a with interval := if short then failedInterval else (st.heap a).interval } },
        []) := by
  unfold applyElect; rw [h]

theorem applyElect_fresh (cfg : Cfg) {st : St} {e : Option Ep} (short : Bool) (h : reuse? st e = none) :
    applyElect cfg st e short =
      ({ st with
          heap := upd st.heap st.next ⟨e, st.clock, if short then failedInterval else intervalFor cfg e, false, 0⟩,
          next := st.next + 1, active := some st.next }, [.onChange e]) := by
  unfold applyElect; rw [h]

theorem applyElect_events (cfg : Cfg) (st : St) (e : Option Ep) (short : Bool) :
    (applyElect cfg st e short).2 = if reuse? st e = none then [.onChange e] else [] := by
  cases hr : reuse? st e with
  | some a => rw [applyElect_reuse cfg short hr]; rfl
  | none => rw [applyElect_fresh cfg short hr]; rfl

theorem applyElect_active (cfg : Cfg) (st : St) (x : Ep) (short : Bool) :
    ∃ a, (applyElect cfg st (some x) short).1.active = some a ∧
      equalOpt ((applyElect cfg st (some x) short).1.heap a).ep (some x) = true ∧
      (short = true → ((applyElect cfg st (some x) short).1.heap a).interval = failedInterval) := by
  cases hr : reuse? st (some x) with
  | some a =>
    rw [applyElect_reuse cfg short hr]
    exact ⟨a, (reuse_some hr).1, by simpa using (reuse_some hr).2, fun hs => by simp [hs]⟩
  | none =>
    rw [applyElect_fresh cfg short hr]
    exact ⟨st.next, rfl, by simp [equalOpt], fun hs => by simp [hs]⟩

/-- the endpoint an outcome installs (`some none`: the pre-repair nil endpoint) -/
def electedOf : Outcome → Option (Option Ep)
  | .elected e => some (some e)
  | .fallback e => some (some e)
  | .fallbackNil => some none
  | .unreach => none
  | .noEndpoint => none

/-- a fallback is tried again after `failedInterval` -/
def isShort : Outcome → Bool
  | .elected _ => false
  | _ => true

theorem testLocked_eq (v : Variant) (cfg : Cfg) (st : St) (env : Env) :
    testLocked v cfg st env =
      match electedOf (findBest v env).2 with
      | some e =>
        ({ (applyElect cfg st e (isShort (findBest v env).2)).1 with lastOffer := some (candsOf (findBest v env).1) },
          traceEvents env.health (findBest v env).1 ++ (applyElect cfg st e (isShort (findBest v env).2)).2, true)
      | none => (st, traceEvents env.health (findBest v env).1, false) := by
  unfold testLocked
  simp only
  cases (findBest v env).2 <;> rfl

theorem testLocked_fields (v : Variant) (cfg : Cfg) (st : St) (env : Env) :
    ∃ h n a l, (testLocked v cfg st env).1 = { st with heap := h, next := n, active := a, lastOffer := l } := by
  rw [testLocked_eq]
  cases electedOf (findBest v env).2 with
  | none => exact ⟨_, _, _, _, rfl⟩
  | some e =>
    dsimp only
    cases hr : reuse? st e with
    | some a => rw [applyElect_reuse cfg _ hr]; exact ⟨_, _, _, _, rfl⟩
    | none => rw [applyElect_fresh cfg _ hr]; exact ⟨_, _, _, _, rfl⟩

theorem testLocked_muHeld (v : Variant) (cfg : Cfg) (st : St) (env : Env) :
    (testLocked v cfg st env).1.muHeld = st.muHeld := by
  obtain ⟨_, _, _, _, e⟩ := testLocked_fields v cfg st env; rw [e]

theorem testLocked_clock (v : Variant) (cfg : Cfg) (st : St) (env : Env) :
    (testLocked v cfg st env).1.clock = st.clock := by
  obtain ⟨_, _, _, _, e⟩ := testLocked_fields v cfg st env; rw [e]

theorem testLocked_inflight (v : Variant) (cfg : Cfg) (st : St) (env : Env) :
    (testLocked v cfg st env).1.inflight = st.inflight := by
  obtain ⟨_, _, _, _, e⟩ := testLocked_fields v cfg st env; rw [e]

theorem testLocked_pending (v : Variant) (cfg : Cfg) (st : St) (env : Env) :
    (testLocked v cfg st env).1.pending = st.pending := by
  obtain ⟨_, _, _, _, e⟩ := testLocked_fields v cfg st env; rw [e]

/-- `electionRun` takes the head off `pending` before the election; it may as well come off afterwards -/
theorem testLocked_setPending (v : Variant) (cfg : Cfg) (st : St) (env : Env) (p : List Nat) :
    testLocked v cfg { st with pending := p } env =
      ({ (testLocked v cfg st env).1 with pending := p }, (testLocked v cfg st env).2) := by
  rw [testLocked_eq, testLocked_eq]
  cases electedOf (findBest v env).2 with
  | none => rfl
  | some e =>
    dsimp only
    -- `reuse?` does not look at `pending`: `hr` is the case of both states
    cases hr : reuse? st e with
    | some a => rw [applyElect_reuse cfg _ hr, applyElect_reuse cfg (st := { st with pending := p }) _ hr]
    | none => rw [applyElect_fresh cfg _ hr, applyElect_fresh cfg (st := { st with pending := p }) _ hr]

theorem testLocked_failed {v : Variant} {cfg : Cfg} {st : St} {env : Env}
    (h : (testLocked v cfg st env).2.2 = false) : (testLocked v cfg st env).1 = st := by
  rw [testLocked_eq] at h ⊢
  cases he : electedOf (findBest v env).2 with
  | none => rfl
  | some e => rw [he] at h; simp at h

def isAction : Ev → Bool
  | .action _ => true
  | _ => false

def isOnChange : Ev → Bool
  | .onChange _ => true
  | _ => false

def actions (l : List Ev) : List Ev := l.filter isAction
def changes (l : List Ev) : List Ev := l.filter isOnChange

theorem actions_append (a b : List Ev) : actions (a ++ b) = actions a ++ actions b := by simp [actions]
theorem changes_append (a b : List Ev) : changes (a ++ b) = changes a ++ changes b := by simp [changes]

theorem trace_neither {h : Nat → Res} {t : List Item} {ev : Ev} (he : ev ∈ traceEvents h t) :
    isAction ev = false ∧ isOnChange ev = false := by
  obtain ⟨x, _, hx⟩ := List.mem_flatMap.1 he
  have : (itemEvents h x).all (fun ev => !isAction ev && !isOnChange ev) = true := by
    cases x with
    | cand e => simp only [itemEvents]; cases h e.key <;> rfl
    | _ => rfl
  simpa using List.all_eq_true.1 this ev hx

theorem trace_no_action (h : Nat → Res) (t : List Item) : actions (traceEvents h t) = [] :=
  List.filter_eq_nil_iff.2 fun _ he => by simp [(trace_neither he).1]

theorem trace_no_change (h : Nat → Res) (t : List Item) : changes (traceEvents h t) = [] :=
  List.filter_eq_nil_iff.2 fun _ he => by simp [(trace_neither he).2]

theorem testLocked_actions (v : Variant) (cfg : Cfg) (st : St) (env : Env) :
    actions (testLocked v cfg st env).2.1 = [] := by
  rw [testLocked_eq]
  cases electedOf (findBest v env).2 with
  | some e => rw [actions_append, trace_no_action, applyElect_events]; split <;> rfl
  | none => exact trace_no_action ..

theorem testLocked_fresh (v : Variant) (cfg : Cfg) (st : St) (env : Env) (e : Ep)
    (ho : (findBest v env).2 = .elected e) (hr : reuse? st (some e) = none) :
    (testLocked v cfg st env).1.active = some st.next ∧
    ((testLocked v cfg st env).1.heap st.next).ep = some e ∧
    changes (testLocked v cfg st env).2.1 = [.onChange (some e)] := by
  rw [testLocked_eq, ho]
  simp only [electedOf, isShort, applyElect_fresh cfg false hr, upd_same, changes_append, trace_no_change, true_and]
  rfl

/-- a write that keeps `f` of its object changes `f` nowhere (an `hv` by computation is given as `by rfl`:
a plain `rfl` is elaborated before `v` is known) -/
theorem upd_congr {α : Type} (f : AE → α) (h : Nat → AE) (a : Nat) (v : AE) (hv : f v = f (h a)) (b : Nat) :
    f (upd h a v b) = f (h b) := by
  unfold upd; split
  · next hb => subst hb; exact hv
  · rfl

theorem finishTest_ep (st : St) (a : Nat) (ok : Bool) (b : Nat) : ((finishTest st a ok).heap b).ep = (st.heap b).ep :=
  upd_congr AE.ep _ _ _ (by rfl) b

theorem enterDo_fst (st : St) (a : Nat) (evs : List Ev) :
    (enterDo st a evs).1 =
      if (st.heap a).testing = false ∧ exceeded st.clock (st.heap a).lastTest (st.heap a).interval = true then
        { st with heap := upd st.heap a { st.heap a with lastTest := st.clock, testing := true },
                  pending := st.pending ++ [a], inflight := st.inflight ++ [a] }
      else { st with inflight := st.inflight ++ [a] } := by
  unfold enterDo; simp only [Bool.and_eq_true, Bool.not_eq_true']; split <;> rfl

theorem enterDo_events (st : St) (a : Nat) (evs : List Ev) : (enterDo st a evs).2 = evs ++ [.action (st.heap a).ep] := rfl

theorem enterDo_active (st : St) (a : Nat) (evs : List Ev) : (enterDo st a evs).1.active = st.active := by
  rw [enterDo_fst]; split <;> rfl
theorem enterDo_lastOffer (st : St) (a : Nat) (evs : List Ev) : (enterDo st a evs).1.lastOffer = st.lastOffer := by
  rw [enterDo_fst]; split <;> rfl
theorem enterDo_muHeld (st : St) (a : Nat) (evs : List Ev) : (enterDo st a evs).1.muHeld = st.muHeld := by
  rw [enterDo_fst]; split <;> rfl
theorem enterDo_next (st : St) (a : Nat) (evs : List Ev) : (enterDo st a evs).1.next = st.next := by
  rw [enterDo_fst]; split <;> rfl
theorem enterDo_inflight (st : St) (a : Nat) (evs : List Ev) : (enterDo st a evs).1.inflight = st.inflight ++ [a] := by
  rw [enterDo_fst]; split <;> rfl
theorem enterDo_ep (st : St) (a : Nat) (evs : List Ev) (b : Nat) : ((enterDo st a evs).1.heap b).ep = (st.heap b).ep := by
  rw [enterDo_fst]; split
  · exact upd_congr AE.ep _ _ _ (by rfl) b
  · rfl

theorem enterDo_spawn (st : St) (a : Nat) (evs : List Ev) (ht : (st.heap a).testing = false)
    (hx : exceeded st.clock (st.heap a).lastTest (st.heap a).interval = true) :
    (enterDo st a evs).1.pending = st.pending ++ [a] ∧
    ((enterDo st a evs).1.heap a).testing = true ∧
    ((enterDo st a evs).1.heap a).lastTest = st.clock := by
  rw [enterDo_fst, if_pos ⟨ht, hx⟩]
  exact ⟨rfl, by simp only [upd_same], by simp only [upd_same]⟩

theorem enterDo_nospawn (st : St) (a : Nat) (evs : List Ev)
    (h : (st.heap a).testing = true ∨ exceeded st.clock (st.heap a).lastTest (st.heap a).interval = false) :
    (enterDo st a evs).1.pending = st.pending ∧ (enterDo st a evs).1.heap = st.heap := by
  rw [enterDo_fst, if_neg fun hc => h.elim (fun ht => Bool.noConfusion (ht.symm.trans hc.1)) fun hx =>
    Bool.noConfusion (hx.symm.trans hc.2)]
  exact ⟨rfl, rfl⟩

theorem doFinish_eq (cfg : Cfg) (st : St) {j a : Nat} (hj : st.inflight[j]? = some a) (ok : Bool) :
    doFinish cfg st j ok =
      if ok = false ∧ (st.heap a).errs + 1 = thr cfg ∧ (st.heap a).testing = false then
        { st with inflight := st.inflight.eraseIdx j, pending := st.pending ++ [a],
                  heap := upd st.heap a { st.heap a with errs := (st.heap a).errs + 1, testing := true } }
      else
        { st with inflight := st.inflight.eraseIdx j,
                  heap := upd st.heap a { st.heap a with errs := if ok then 0 else (st.heap a).errs + 1 } } := by
  unfold doFinish
  rw [hj]
  cases ok <;> dsimp only
  · simp only [thresholdHit, Bool.and_eq_true, decide_eq_true_eq, Bool.not_eq_true', true_and, Bool.false_eq_true, if_false]
  · simp only [Bool.true_eq_false, false_and, if_false, if_true]

/-- `getActiveEndpoint`: the state in which `Do` goes on, and the events so far -/
def getActive (v : Variant) (cfg : Cfg) (st : St) (env : Env) : St × List Ev :=
  match st.active, cfg.init with
  | some _, _ => (st, [])
  | none, some e => (installInit cfg st e, [])
  | none, none =>
    (if (testLocked v cfg st env).2.2 then (testLocked v cfg st env).1 else { st with muHeld := !v.unlockOnBootErr },
      (testLocked v cfg st env).2.1)

theorem getActive_of_active {v : Variant} {cfg : Cfg} {st : St} {env : Env} {a : Nat} (ha : st.active = some a) :
    getActive v cfg st env = (st, []) := by
  unfold getActive; rw [ha]

theorem getActive_none {v : Variant} {cfg : Cfg} {st : St} {env : Env} (h : (getActive v cfg st env).1.active = none) :
    st.active = none ∧ cfg.init = none := by
  unfold getActive at h
  split at h
  · next ha => rw [ha] at h; cases h
  · cases h
  · next ha hi => exact ⟨ha, hi⟩

theorem getActive_inflight (v : Variant) (cfg : Cfg) (st : St) (env : Env) :
    (getActive v cfg st env).1.inflight = st.inflight := by
  unfold getActive
  split
  · rfl
  · rfl
  · dsimp only; split
    · exact testLocked_inflight ..
    · rfl

theorem getActive_actions (v : Variant) (cfg : Cfg) (st : St) (env : Env) :
    actions (getActive v cfg st env).2 = [] := by
  unfold getActive
  split
  · rfl
  · rfl
  · exact testLocked_actions ..

/-- what an operation does once it has `m.mu` (`step_eq`) -/
def exec (v : Variant) (cfg : Cfg) (st : St) : Op → St × List Ev
  | .doStart env =>
    match (getActive v cfg st env).1.active with
    | some a => enterDo (getActive v cfg st env).1 a (getActive v cfg st env).2
    | none => ((getActive v cfg st env).1, (getActive v cfg st env).2 ++ [.ret false])
  | .doFinish j ok => (doFinish cfg st j ok, [])
  | .electionRun env =>
    match st.pending with
    | [] => (st, [])
    | a :: rest =>
      (finishTest { (testLocked v cfg st env).1 with pending := rest } a (testLocked v cfg st env).2.2,
        (testLocked v cfg st env).2.1 ++ [.ret (testLocked v cfg st env).2.2])
  | .advance d => ({ st with clock := st.clock + d }, [])
  | .forceTest env => ((testLocked v cfg st env).1, (testLocked v cfg st env).2.1 ++ [.ret (testLocked v cfg st env).2.2])

/-- the operations that take `m.mu` -/
def waits (st : St) : Op → Bool
  | .doStart _ => true
  | .forceTest _ => true
  | .electionRun _ => !st.pending.isEmpty
  | _ => false

theorem step_eq (v : Variant) (cfg : Cfg) (st : St) (op : Op) :
    step v cfg st op = if st.muHeld && waits st op then none else some (exec v cfg st op) := by
  cases op with
  | doFinish j ok => simp [step, waits, exec]
  | advance d => simp [step, waits, exec]
  | forceTest env => simp only [step, forceTest, waits, exec, Bool.and_true]
  | electionRun env =>
    simp only [step, electionRun, waits, exec]
    split
    · next hp => simp [hp]
    · next hp => simp [hp, testLocked_setPending]
  | doStart env =>
    show doStart v cfg st env = if st.muHeld && true then none else some (exec v cfg st (.doStart env))
    unfold doStart
    rw [Bool.and_true]
    split
    · rfl
    · unfold exec getActive
      cases ha : st.active with
      | some a => simp only [ha]
      | none =>
        cases hi : cfg.init with
        | some e => rfl
        | none =>
          dsimp only
          cases ht : (testLocked v cfg st env).2.2 with
          | true => simp only [if_true]; cases (testLocked v cfg st env).1.active <;> rfl
          | false => simp only [Bool.false_eq_true, if_false, ha, testLocked_failed ht]

theorem step_some {v : Variant} {cfg : Cfg} {st : St} {op : Op} {r : St × List Ev} (hr : step v cfg st op = some r) :
    r = exec v cfg st op := by
  rw [step_eq] at hr
  split at hr
  · cases hr
  · exact (Option.some.inj hr).symm

theorem step_free (v : Variant) (cfg : Cfg) {st : St} (op : Op) (h : st.muHeld = false) :
    step v cfg st op = some (exec v cfg st op) := by
  rw [step_eq, h]; rfl

theorem doStart_active (v : Variant) (cfg : Cfg) (st : St) (env : Env) (a : Nat)
    (hmu : st.muHeld = false) (ha : st.active = some a) :
    doStart v cfg st env = some (enterDo st a []) :=
  (step_free v cfg (.doStart env) hmu).trans (by simp [exec, getActive_of_active ha, ha])

theorem electionRun_pending (v : Variant) (cfg : Cfg) {st : St} (env : Env) {a : Nat} {rest : List Nat}
    (hmu : st.muHeld = false) (hp : st.pending = a :: rest) :
    electionRun v cfg st env = some
      (finishTest { (testLocked v cfg st env).1 with pending := rest } a (testLocked v cfg st env).2.2,
        (testLocked v cfg st env).2.1 ++ [.ret (testLocked v cfg st env).2.2]) :=
  (step_free v cfg (.electionRun env) hmu).trans (by simp only [exec, hp])

/-- where the endpoint of the active object comes from: InitEndpoint as long as no election has
completed, afterwards a candidate of the last election that completed -/
def Prov (cfg : Cfg) (ep : Option Ep) : Option (List Ep) → Prop
  | none => ep = cfg.init
  | some l => ∃ e ∈ l, equalOpt ep (some e) = true

structure InvP (cfg : Cfg) (st : St) : Prop where
  nonnil : ∀ a, st.active = some a → (st.heap a).ep ≠ none
  prov : ∀ a, st.active = some a → Prov cfg (st.heap a).ep st.lastOffer
  offerNone : st.active = none → st.lastOffer = none   -- so that `installInit` meets `Prov … none`

theorem InvP_congr {cfg : Cfg} {st st' : St} (h : InvP cfg st) (ha : st'.active = st.active)
    (hl : st'.lastOffer = st.lastOffer) (he : ∀ b, (st'.heap b).ep = (st.heap b).ep) : InvP cfg st' := by
  refine ⟨?_, ?_, ?_⟩
  · intro a haa; rw [he]; exact h.nonnil a (ha ▸ haa)
  · intro a haa; rw [hl, he]; exact h.prov a (ha ▸ haa)
  · intro hn; rw [hl]; exact h.offerNone (ha ▸ hn)

theorem InvP_init (cfg : Cfg) : InvP cfg St.init := by
  refine ⟨?_, ?_, ?_⟩ <;> simp [St.init]

theorem InvP_of_active {cfg : Cfg} {st : St} {a : Nat} (ha : st.active = some a) (hn : (st.heap a).ep ≠ none)
    (hp : Prov cfg (st.heap a).ep st.lastOffer) : InvP cfg st :=
  ⟨fun b hb => by cases ha.symm.trans hb; exact hn, fun b hb => by cases ha.symm.trans hb; exact hp,
    fun hn => by cases ha.symm.trans hn⟩

theorem InvP_applyElect (cfg : Cfg) (st : St) (x : Ep) (short : Bool) (l : List Ep) (hx : x ∈ l) :
    InvP cfg { (applyElect cfg st (some x) short).1 with lastOffer := some l } := by
  obtain ⟨a, ha, he, _⟩ := applyElect_active cfg st x short
  obtain ⟨y, hy, _⟩ := equalOpt_some_iff.1 he
  exact InvP_of_active (a := a) ha (by simp [hy]) ⟨x, hx, he⟩

theorem InvP_installInit {cfg : Cfg} {st : St} {e : Ep} (h : InvP cfg st) (ha : st.active = none) (he : cfg.init = some e) :
    InvP cfg (installInit cfg st e) :=
  InvP_of_active (a := st.next) rfl (by simp [installInit]) (by simp [installInit, h.offerNone ha, Prov, he])

/-- `repaired` only, like the `Inv_…` below that name it: `errOnNoCand` excludes `fallbackNil`; `Inv.mu` needs `unlockOnBootErr` -/
theorem testLocked_InvP (cfg : Cfg) (st : St) (env : Env) (h : InvP cfg st) :
    InvP cfg (testLocked repaired cfg st env).1 := by
  have hO := findBest_outcome repaired env
  rw [testLocked_eq]
  cases ho : (findBest repaired env).2 <;> simp only [ho] at hO
  case elected e => exact InvP_applyElect cfg st e false _ hO.1
  case fallback e => exact InvP_applyElect cfg st e true _ hO
  case fallbackNil => cases hO
  case unreach => exact h
  case noEndpoint => exact h

/-- single flight: `pending` lists the objects whose `testing` flag is set, each once; the other
three fields keep an allocation at `next` clear of every object in use -/
structure InvT (st : St) : Prop where
  nodup : st.pending.Nodup
  pend : ∀ a, a ∈ st.pending ↔ (st.heap a).testing = true
  fresh : ∀ a, st.next ≤ a → (st.heap a).testing = false
  act_lt : ∀ a, st.active = some a → a < st.next
  infl : ∀ a ∈ st.inflight, a < st.next

theorem InvT_init : InvT St.init := by
  refine ⟨?_, ?_, ?_, ?_, ?_⟩ <;> simp [St.init, AE.zero]

theorem InvT_mono {st st' : St} (h : InvT st) (hp : st'.pending = st.pending) (hi : st'.inflight = st.inflight)
    (hn : st.next ≤ st'.next) (ht : ∀ b, (st'.heap b).testing = (st.heap b).testing)
    (ha : ∀ a, st'.active = some a → a < st'.next) : InvT st' := by
  refine ⟨?_, ?_, ?_, ha, ?_⟩
  · rw [hp]; exact h.nodup
  · intro a; rw [hp, ht]; exact h.pend a
  · intro a hge; rw [ht]; exact h.fresh a (Nat.le_trans hn hge)
  · intro a hm; rw [hi] at hm; exact Nat.lt_of_lt_of_le (h.infl a hm) hn

theorem InvT_upd {st : St} (h : InvT st) (a : Nat) (o : AE) (ho : o.testing = (st.heap a).testing) :
    InvT { st with heap := upd st.heap a o } :=
  InvT_mono h rfl rfl (Nat.le_refl _) (upd_congr AE.testing _ _ _ ho) h.act_lt

theorem InvT_alloc {st : St} (h : InvT st) (o : AE) (ho : o.testing = false) :
    InvT { st with heap := upd st.heap st.next o, next := st.next + 1, active := some st.next } :=
  InvT_mono h rfl rfl (Nat.le_succ _) (upd_congr AE.testing _ _ _ (ho.trans (h.fresh _ (Nat.le_refl _)).symm))
    fun _ ha => Option.some.inj ha ▸ Nat.lt_succ_self _

theorem InvT_inflight {st : St} (h : InvT st) (l : List Nat) (hl : ∀ a ∈ l, a < st.next) : InvT { st with inflight := l } :=
  ⟨h.nodup, h.pend, h.fresh, h.act_lt, hl⟩

theorem InvT_spawn {st : St} (h : InvT st) {a : Nat} (ha : a < st.next) (ht : (st.heap a).testing = false)
    (o : AE) (ho : o.testing = true) :
    InvT { st with heap := upd st.heap a o, pending := st.pending ++ [a] } := by
  have hnp : a ∉ st.pending := fun hm => by rw [(h.pend a).1 hm] at ht; cases ht
  refine ⟨?_, ?_, ?_, h.act_lt, h.infl⟩
  · exact (List.perm_append_singleton a st.pending).nodup_iff.mpr (List.nodup_cons.mpr ⟨hnp, h.nodup⟩)
  · intro b
    show b ∈ st.pending ++ [a] ↔ (upd st.heap a o b).testing = true
    by_cases hb : b = a
    · subst hb; simp [ho]
    · rw [upd_other _ _ _ _ hb]; simp [hb]; exact h.pend b
  · intro b (hge : st.next ≤ b)
    show (upd st.heap a o b).testing = false
    rw [upd_other _ _ _ _ (by omega)]; exact h.fresh b hge

theorem InvT_pop {st : St} (h : InvT st) {a : Nat} {rest : List Nat} (hp : st.pending = a :: rest) (ok : Bool) :
    InvT (finishTest { st with pending := rest } a ok) := by
  obtain ⟨hanr, hnd⟩ := List.nodup_cons.1 (hp ▸ h.nodup)
  unfold finishTest
  refine ⟨hnd, ?_, ?_, h.act_lt, h.infl⟩
  · intro b
    show b ∈ rest ↔ (upd st.heap a _ b).testing = true
    by_cases hb : b = a
    · subst hb; simp [hanr]
    · rw [upd_other _ _ _ _ hb, ← h.pend b, hp]; simp [hb]
  · intro b hge
    show (upd st.heap a _ b).testing = false
    by_cases hb : b = a
    · subst hb; simp
    · rw [upd_other _ _ _ _ hb]; exact h.fresh b hge

theorem InvT_enterDo {st : St} (h : InvT st) {a : Nat} (ha : a < st.next) (evs : List Ev) :
    InvT (enterDo st a evs).1 := by
  have push : ∀ {s : St}, InvT s → s.next = st.next → InvT { s with inflight := s.inflight ++ [a] } := fun hs hn =>
    InvT_inflight hs _ (List.forall_mem_append.mpr ⟨hs.infl, List.forall_mem_singleton.mpr (hn ▸ ha)⟩)
  rw [enterDo_fst]
  split
  · next hc => exact push (InvT_spawn h ha hc.1 _ rfl) rfl
  · exact push h rfl

theorem testLocked_InvT (v : Variant) (cfg : Cfg) (st : St) (env : Env) (h : InvT st) :
    InvT (testLocked v cfg st env).1 := by
  rw [testLocked_eq]
  cases electedOf (findBest v env).2 with
  | none => exact h
  | some e =>
    have hA : InvT (applyElect cfg st e (isShort (findBest v env).2)).1 := by
      cases hr : reuse? st e with
      | some a => rw [applyElect_reuse cfg _ hr]; exact InvT_upd h _ _ rfl
      | none => rw [applyElect_fresh cfg _ hr]; exact InvT_alloc h _ rfl
    exact ⟨hA.nodup, hA.pend, hA.fresh, hA.act_lt, hA.infl⟩  -- `lastOffer` is not looked at

/-- holds in every state the repaired variant reaches (`Inv_reach`): single flight, provenance, `m.mu` free -/
structure Inv (cfg : Cfg) (st : St) : Prop where
  t : InvT st
  p : InvP cfg st
  mu : st.muHeld = false

theorem Inv_init (cfg : Cfg) : Inv cfg St.init := ⟨InvT_init, InvP_init cfg, rfl⟩

/-- `Inv` does not read `clock`, and of `muHeld` only that it is `false` -/
theorem Inv_frame {cfg : Cfg} {st : St} (h : Inv cfg st) (c : Nat) {m : Bool} (hm : m = false) :
    Inv cfg { st with clock := c, muHeld := m } :=
  ⟨InvT_mono h.t rfl rfl (Nat.le_refl _) (fun _ => rfl) h.t.act_lt, InvP_congr h.p rfl rfl fun _ => rfl, hm⟩

theorem Inv_testLocked {cfg : Cfg} {st : St} (h : Inv cfg st) (env : Env) : Inv cfg (testLocked repaired cfg st env).1 :=
  ⟨testLocked_InvT _ cfg st env h.t, testLocked_InvP cfg st env h.p, (testLocked_muHeld ..).trans h.mu⟩

theorem Inv_enterDo {cfg : Cfg} {st : St} (h : Inv cfg st) {a : Nat} (ha : st.active = some a) (evs : List Ev) :
    Inv cfg (enterDo st a evs).1 :=
  ⟨InvT_enterDo h.t (h.t.act_lt a ha) evs, InvP_congr h.p (enterDo_active ..) (enterDo_lastOffer ..) (enterDo_ep _ _ _),
    (enterDo_muHeld ..).trans h.mu⟩

theorem Inv_doFinish {cfg : Cfg} {st : St} (h : Inv cfg st) (j : Nat) (ok : Bool) : Inv cfg (doFinish cfg st j ok) := by
  cases hj : st.inflight[j]? with
  | none => unfold doFinish; rw [hj]; exact h
  | some a =>
    have h1 : InvT { st with inflight := st.inflight.eraseIdx j } :=
      InvT_inflight h.t _ fun b hb => h.t.infl b ((List.eraseIdx_sublist _ _).subset hb)
    rw [doFinish_eq cfg st hj]
    split
    · next hc =>
      exact ⟨InvT_spawn h1 (h.t.infl a (List.mem_of_getElem? hj)) hc.2.2 _ rfl,
        InvP_congr h.p rfl rfl (upd_congr AE.ep _ _ _ (by rfl)), h.mu⟩
    · exact ⟨InvT_upd h1 a _ rfl, InvP_congr h.p rfl rfl (upd_congr AE.ep _ _ _ (by rfl)), h.mu⟩

theorem Inv_getActive {cfg : Cfg} {st : St} (h : Inv cfg st) (env : Env) : Inv cfg (getActive repaired cfg st env).1 := by
  unfold getActive
  split
  · exact h
  · next ha he => exact ⟨InvT_alloc h.t _ rfl, InvP_installInit h.p ha he, h.mu⟩
  · dsimp only; split
    · exact Inv_testLocked h env
    · exact Inv_frame h st.clock rfl

theorem Inv_exec {cfg : Cfg} {st : St} (h : Inv cfg st) (op : Op) : Inv cfg (exec repaired cfg st op).1 := by
  cases op with
  | doStart env =>
    have hg := Inv_getActive h env
    simp only [exec]
    split
    · next ha => exact Inv_enterDo hg ha _
    · exact hg
  | doFinish j ok => exact Inv_doFinish h j ok
  | electionRun env =>
    have ht := Inv_testLocked h env
    simp only [exec]
    split
    · exact h
    · next a rest hp =>
      exact ⟨InvT_pop ht.t ((testLocked_pending ..).trans hp) _,
        InvP_congr ht.p rfl rfl (finishTest_ep _ _ _), ht.mu⟩
  | advance d => exact Inv_frame h (st.clock + d) h.mu
  | forceTest env => exact Inv_testLocked h env

/-- induction on a run, for any `v` and `P`; it asks and gives that nothing blocks -/
theorem run_inv (v : Variant) (cfg : Cfg) {P : St → Prop}
    (hs : ∀ st op, P st → ∃ r, step v cfg st op = some r ∧ P r.1) :
    ∀ (ops : List Op) (st : St), P st → ∃ r, run v cfg st ops = some r ∧ P r.1 := by
  intro ops
  induction ops with
  | nil => exact fun st h => ⟨_, rfl, h⟩
  | cons op ops ih =>
    intro st h
    obtain ⟨r1, h1, p1⟩ := hs st op h
    obtain ⟨r2, h2, p2⟩ := ih r1.1 p1
    exact ⟨(r2.1, r1.2 ++ r2.2), by simp [run, h1, h2], p2⟩

theorem Inv_run (cfg : Cfg) (ops : List Op) : ∃ r, run repaired cfg St.init ops = some r ∧ Inv cfg r.1 :=
  run_inv repaired cfg (P := Inv cfg) (fun _ op h => ⟨_, step_free repaired cfg op h.mu, Inv_exec h op⟩) ops St.init (Inv_init cfg)

theorem Inv_reach {cfg : Cfg} {ops : List Op} {r : St × List Ev} (hr : run repaired cfg St.init ops = some r) : Inv cfg r.1 := by
  obtain ⟨r', h', hi⟩ := Inv_run cfg ops
  cases hr.symm.trans h'
  exact hi

/-- the part `C09.failover` and `C09.recovery` share: a started election whose first passing
candidate `p` is not `Equal` to the active endpoint installs `p` in a fresh object -/
theorem election_installs (cfg : Cfg) (s : St) (env : Env) (a x : Nat) (rest : List Nat) (p : Ep) {pre post : List Item}
    (hmu : s.muHeld = false) (hp : s.pending = a :: rest) (hact : s.active = some x)
    (hi : items env = pre ++ .cand p :: post) (hpre : ∀ i ∈ pre, stopOf env.health i = none)
    (hy : env.health p.key = .ok) (hne : equalOpt (s.heap x).ep (some p) = false) :
    ∃ st' evs, electionRun repaired cfg s env = some (st', evs) ∧
      st'.active = some s.next ∧ (st'.heap s.next).ep = some p ∧
      changes evs = [.onChange (some p)] ∧ st'.pending = rest ∧ (st'.heap a).testing = false ∧
      st'.muHeld = false := by
  obtain ⟨hnew, hep, hch⟩ := testLocked_fresh repaired cfg s env p (findBest_first_healthy repaired hi hpre hy)
    ((reuse_none_iff _ _).2 (Or.inr ⟨x, hact, hne⟩))
  refine ⟨finishTest { (testLocked repaired cfg s env).1 with pending := rest } a (testLocked repaired cfg s env).2.2,
    (testLocked repaired cfg s env).2.1 ++ [.ret (testLocked repaired cfg s env).2.2],
    electionRun_pending repaired cfg env hmu hp, ?_⟩
  -- `finishTest` writes `testing` and `lastTest` of the object `a`, nothing else
  exact ⟨hnew, (finishTest_ep ..).trans hep, by rw [changes_append, hch]; rfl, rfl,
    by simp only [finishTest, upd_same], (testLocked_muHeld ..).trans hmu⟩

end NV.Mgr
