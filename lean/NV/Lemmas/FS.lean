/-
  NV.Lemmas.FS — general facts about NV.Model.FS. strings.TrimSpace (`trim`) strips white-space runes by fuel; the fuel
  suffices, so its result has none at either end (`Clean`), and `trim` and `dropCR` leave such a text alone. The scanner
  takes "a newline after each line" apart again (`rawLines_flatten`, `scan_ok`). A crash leaves a prefix of the calls; the
  calls of writeTempResolvConf (`stage`) change the staging name only, which gives the three kinds of state of `setup_prefix`.
-/
import NV.Model.FS
namespace NV.FS

theorem prefix_one {α} {l : List α} {x : α} (h : l <+: [x]) : l = [] ∨ l = [x] :=
  (List.prefix_concat_iff (l₂ := []).mp h).symm.imp_left List.prefix_nil.mp

theorem startsWith_some {seqs : List Bytes} {l w : Bytes} (h : startsWith seqs l = some w) :
    w ∈ seqs ∧ w <+: l :=
  ⟨List.mem_of_find?_eq_some h, by simpa [List.isPrefixOf_iff_prefix] using List.find?_some h⟩

theorem startsWith_eq_none {seqs : List Bytes} {l : Bytes} :
    startsWith seqs l = none ↔ ∀ w ∈ seqs, ¬ w <+: l := by
  simp [startsWith, List.isPrefixOf_iff_prefix]

theorem startsWith_isSome {seqs : List Bytes} {l : Bytes} :
    (startsWith seqs l).isSome ↔ ∃ w ∈ seqs, w <+: l := by
  simp [startsWith, List.isPrefixOf_iff_prefix]

theorem startsWith_none_of_prefix {seqs : List Bytes} {t u : Bytes} (htu : t <+: u)
    (h : startsWith seqs u = none) : startsWith seqs t = none :=
  startsWith_eq_none.mpr fun w hw hp => startsWith_eq_none.mp h w hw (hp.trans htu)

theorem stripF_suffix (seqs : List Bytes) (n : Nat) (l : Bytes) : stripF seqs n l <:+ l := by
  induction n generalizing l with
  | zero => exact List.suffix_refl _
  | succ n ih =>
    unfold stripF
    cases h : startsWith seqs l with
    | none => exact List.suffix_refl _
    | some w => exact (ih _).trans (List.drop_suffix _ _)

theorem stripF_id (seqs : List Bytes) (n : Nat) (l : Bytes) (h : startsWith seqs l = none) :
    stripF seqs n l = l := by
  cases n with
  | zero => rfl
  | succ n => simp [stripF, h]

theorem stripF_clean (seqs : List Bytes) (hne : ∀ w ∈ seqs, w ≠ []) (n : Nat) (l : Bytes)
    (hn : l.length ≤ n) : startsWith seqs (stripF seqs n l) = none := by
  induction n generalizing l with
  | zero =>
    obtain rfl : l = [] := List.length_eq_zero_iff.mp (Nat.le_zero.mp hn)
    exact startsWith_eq_none.mpr fun w hw hp => hne w hw (List.prefix_nil.mp hp)
  | succ n ih =>
    unfold stripF
    cases h : startsWith seqs l with
    | none => exact h
    | some w =>
      -- every strip removes at least one byte, so the fuel outlasts the list
      have hwl : 0 < w.length := List.length_pos_iff.mpr (hne w (startsWith_some h).1)
      exact ih _ (by simp only [List.length_drop]; omega)

theorem wsSeqs_ne : ∀ w ∈ wsSeqs, w ≠ [] := by decide
theorem wsSeqsRev_ne : ∀ w ∈ wsSeqsRev, w ≠ [] := by decide

/-- no white-space rune at either end -/
def Clean (t : Bytes) : Prop := startsWith wsSeqs t = none ∧ startsWith wsSeqsRev t.reverse = none

theorem trimLeft_clean (l : Bytes) : startsWith wsSeqs (trimLeft l) = none :=
  stripF_clean _ wsSeqs_ne _ _ (Nat.le_refl _)

theorem trimLeft_suffix (l : Bytes) : trimLeft l <:+ l := stripF_suffix _ _ _

theorem reverse_trimRight (l : Bytes) : (trimRight l).reverse = stripF wsSeqsRev l.length l.reverse :=
  List.reverse_reverse _

theorem trimRight_prefix (l : Bytes) : trimRight l <+: l :=
  List.reverse_suffix.mp (reverse_trimRight l ▸ stripF_suffix _ _ _)

theorem trimRight_clean (l : Bytes) : startsWith wsSeqsRev (trimRight l).reverse = none :=
  reverse_trimRight l ▸ stripF_clean _ wsSeqsRev_ne _ _ (by simp)

theorem trimLeft_id {t : Bytes} (h : startsWith wsSeqs t = none) : trimLeft t = t := stripF_id _ _ _ h

theorem trimRight_id {t : Bytes} (h : startsWith wsSeqsRev t.reverse = none) : trimRight t = t := by
  rw [trimRight, stripF_id _ _ _ h, List.reverse_reverse]

theorem trim_clean (l : Bytes) : Clean (trim l) :=
  ⟨startsWith_none_of_prefix (trimRight_prefix _) (trimLeft_clean l), trimRight_clean _⟩

theorem Clean.trim_eq {t : Bytes} (h : Clean t) : trim t = t := by
  rw [trim, trimLeft_id h.1, trimRight_id h.2]

/-- a string that does not end with white space does not end with `\r` -/
theorem Clean.dropCR_eq {t : Bytes} (h : Clean t) : dropCR t = t := by
  rw [dropCR, if_neg]
  intro hl
  obtain ⟨ys, hys⟩ := List.head?_eq_some_iff.mp (List.getLast?_eq_head?_reverse ▸ hl)
  exact startsWith_eq_none.mp h.2 [13] (by decide) ⟨ys, hys.symm⟩

theorem Clean.trim_dropCR {t : Bytes} (h : Clean t) : trim (dropCR t) = t := by rw [h.dropCR_eq, h.trim_eq]

theorem trim_idem (l : Bytes) : trim (trim l) = trim l := (trim_clean l).trim_eq

theorem dropCR_trim (l : Bytes) : dropCR (trim l) = trim l := (trim_clean l).dropCR_eq

theorem trim_space_cons {t : Bytes} (h : Clean t) : trim (32 :: t) = t := by
  have hl : trimLeft (32 :: t) = t := by
    -- `rfl` for any `t`: before `[32]`, `wsSeqs` holds only single bytes other than 32
    rw [trimLeft, List.length_cons, stripF, show startsWith wsSeqs (32 :: t) = some [32] from rfl]
    exact stripF_id _ _ _ h.1
  rw [trim, hl, trimRight_id h.2]

def headOutside (w : Bytes) : Bool :=
  match w with
  | [] => false
  | k :: _ => k.toNat < 33 || 126 < k.toNat

/-- every white-space encoding begins, and ends, with a byte outside the printable range -/
theorem ws_heads : ∀ w ∈ wsSeqs ++ wsSeqsRev, headOutside w = true := by decide

theorem clean_of_plain_ends {t : Bytes} (hh : ∀ a ∈ t.head?, 33 ≤ a.toNat ∧ a.toNat ≤ 126)
    (hl : ∀ b ∈ t.getLast?, 33 ≤ b.toNat ∧ b.toNat ≤ 126) : Clean t := by
  have key : ∀ (seqs : List Bytes) (u : Bytes), (∀ w ∈ seqs, w ∈ wsSeqs ++ wsSeqsRev) →
      (∀ a ∈ u.head?, 33 ≤ a.toNat ∧ a.toNat ≤ 126) → startsWith seqs u = none := by
    intro seqs u hs hu
    refine startsWith_eq_none.mpr fun w hw hp => ?_
    have hh := ws_heads w (hs w hw)
    cases w with
    | nil => cases hh
    | cons k ks =>
      obtain ⟨r, rfl⟩ := hp
      have hk := hu k rfl
      simp only [headOutside, Bool.or_eq_true, decide_eq_true_eq] at hh
      omega
  exact ⟨key _ t (fun w hw => List.mem_append_left _ hw) hh,
    key _ t.reverse (fun w hw => List.mem_append_right _ hw) (List.head?_reverse ▸ hl)⟩

theorem clean_plain (l : Bytes) (h : ∀ d ∈ l, 33 ≤ d.toNat ∧ d.toNat ≤ 126) : Clean l :=
  clean_of_plain_ends (fun a ha => h a (List.mem_of_mem_head? ha)) (fun b hb => h b (List.mem_of_mem_getLast? hb))

theorem trim_sub (l : Bytes) : ∀ x ∈ trim l, x ∈ l := fun _ hx =>
  (trimLeft_suffix l).subset ((trimRight_prefix (trimLeft l)).subset hx)

theorem rawLines_line (l rest : Bytes) (h : (10 : UInt8) ∉ l) :
    rawLines (l ++ 10 :: rest) = l :: rawLines rest := by
  induction l with
  | nil => simp [rawLines]
  | cons c l ih =>
    have hc : c ≠ 10 := fun e => h (by simp [e])
    have hl : (10 : UInt8) ∉ l := fun e => h (by simp [e])
    simp [rawLines, hc, ih hl]

theorem rawLines_flatten (ls : List Bytes) (h : ∀ l ∈ ls, (10 : UInt8) ∉ l) :
    rawLines (ls.map (· ++ [10])).flatten = ls := by
  induction ls with
  | nil => simp [rawLines]
  | cons l ls ih =>
    have h1 := h l (by simp)
    have h2 : ∀ x ∈ ls, (10 : UInt8) ∉ x := fun x hx => h x (by simp [hx])
    simp only [List.map_cons, List.flatten_cons, List.append_assoc, List.singleton_append]
    rw [rawLines_line _ _ h1, ih h2]

theorem rawLines_no_nl (b : Bytes) : ∀ l ∈ rawLines b, (10 : UInt8) ∉ l := by
  induction b with
  | nil => exact fun _ h => nomatch h
  | cons c cs ih =>
    unfold rawLines
    split
    next => exact List.forall_mem_cons.mpr ⟨List.not_mem_nil, ih⟩
    next hc =>
      split
      next => exact List.forall_mem_cons.mpr ⟨by simpa using Ne.symm hc, fun _ h => nomatch h⟩
      next l ls hr =>
        have ⟨h1, h2⟩ := List.forall_mem_cons.mp (hr ▸ ih)
        exact List.forall_mem_cons.mpr ⟨by simpa [Ne.symm hc] using h1, h2⟩

theorem dropCR_sub (l : Bytes) : ∀ x ∈ dropCR l, x ∈ l := by
  intro x hx
  unfold dropCR at hx
  split at hx
  · exact (List.dropLast_prefix l).subset hx
  · exact hx

theorem scan_ok {content : Bytes} (hs : (scan content).2 = false) :
    (scan content).1 = (rawLines content).map dropCR := by
  have hlen : (rawLines content).length ≤ ((rawLines content).takeWhile (fun l => l.length < maxToken)).length := by
    simpa [scan] using hs
  simp only [scan, (List.takeWhile_prefix _).eq_of_length_le hlen]

theorem scan_no_nl (content : Bytes) : ∀ l ∈ (scan content).1, (10 : UInt8) ∉ l := by
  intro l hl h10
  obtain ⟨raw, hraw, rfl⟩ := List.mem_map.mp hl
  exact rawLines_no_nl content raw ((List.takeWhile_prefix _).subset hraw) (dropCR_sub _ _ h10)

/-- the lines writeTempResolvConf copies: the `filter` inside the model's `chunks` -/
def kept (v : Variant) (content : Bytes) : List Bytes := ((scan content).1.map trim).filter (keeps v)

theorem render_eq (v : Variant) (content dns : Bytes) :
    render v content dns = ((header ++ kept v content ++ [nsLine dns]).map (· ++ [10])).flatten := rfl

theorem kept_clean (v : Variant) (content : Bytes) : ∀ t ∈ kept v content, Clean t ∧ (10 : UInt8) ∉ t := by
  intro t ht
  obtain ⟨l, hl, rfl⟩ := List.mem_map.mp (List.mem_filter.mp ht).1
  exact ⟨trim_clean l, fun h10 => scan_no_nl content l hl (trim_sub _ _ h10)⟩

theorem cutAt_prefix (k : Kind) (j : Nat) (ps : List Prim) : cutAt k j ps <+: ps := by
  induction ps generalizing j with
  | nil => simp [cutAt]
  | cons p ps ih =>
    unfold cutAt
    split
    · split
      · exact List.nil_prefix
      · exact (List.cons_prefix_cons).mpr ⟨rfl, ih _⟩
    · exact (List.cons_prefix_cons).mpr ⟨rfl, ih _⟩

theorem cut_prefix (ps : List Prim) (c : Option Crash) : cut ps c <+: ps := by
  cases c with
  | none => exact List.prefix_refl _
  | some c => exact cutAt_prefix _ _ _

theorem applyAll_append (s : FS) (a b : List Prim) : applyAll s (a ++ b) = applyAll (applyAll s a) b := by
  simp [applyAll, List.foldl_append]

theorem apply_rename (s : FS) (a b : Path) (h : s.get a ≠ .absent) :
    apply s (.rename a b) = (s.set b (s.get a)).set a .absent := by
  cases hg : s.get a with
  | absent => exact absurd hg h
  | file c => simp only [apply, hg]
  | symlink c => simp only [apply, hg]

theorem set_ext (s : FS) (p : Path) (n : Node) : (s.set p n).ext = s.ext := by cases p <;> rfl

theorem apply_ext (s : FS) (p : Prim) : (apply s p).ext = s.ext := by
  cases p <;> simp only [apply] <;> (try split) <;> simp [set_ext]

theorem applyAll_ext (s : FS) (ps : List Prim) : (applyAll s ps).ext = s.ext :=
  List.foldlRecOn (motive := fun s' => s'.ext = s.ext) ps apply rfl fun s' h p _ => (apply_ext s' p).trans h

/-- calls that can only change the staging name -/
def Prim.tmpOnly : Prim → Bool
  | .openRead _ => true
  | .rmdir _ => true
  | .unlink p => p = .tmp
  | .creat p => p = .tmp
  | .append p _ => p = .tmp
  | .rename _ _ => false

theorem apply_tmpOnly (s : FS) (p : Prim) (h : p.tmpOnly = true) :
    (apply s p).live = s.live ∧ (apply s p).bak = s.bak := by
  cases p with
  | openRead _ | rmdir _ => exact ⟨rfl, rfl⟩
  | rename _ _ => cases h
  | unlink p => obtain rfl : p = .tmp := of_decide_eq_true h; exact ⟨rfl, rfl⟩
  | creat p => obtain rfl : p = .tmp := of_decide_eq_true h; simp only [apply]; split <;> exact ⟨rfl, rfl⟩
  | append p c => obtain rfl : p = .tmp := of_decide_eq_true h; simp only [apply]; split <;> exact ⟨rfl, rfl⟩

theorem applyAll_tmpOnly (s : FS) (ps : List Prim) (h : ∀ p ∈ ps, p.tmpOnly = true) :
    (applyAll s ps).live = s.live ∧ (applyAll s ps).bak = s.bak :=
  List.foldlRecOn (motive := fun s' => s'.live = s.live ∧ s'.bak = s.bak) ps apply ⟨rfl, rfl⟩ fun s' hs p hp =>
    (apply_tmpOnly s' p (h p hp)).imp (·.trans hs.1) (·.trans hs.2)

theorem applyAll_appends (s : FS) (b : Bytes) (cs : List Bytes) :
    applyAll { s with tmp := .file b } (cs.map (.append .tmp)) = { s with tmp := .file (b ++ cs.flatten) } := by
  induction cs generalizing b with
  | nil => simp [applyAll]
  | cons c cs ih => exact (ih (b ++ c)).trans (by rw [List.flatten_cons, List.append_assoc])

/-- the calls of writeTempResolvConf, for a readable live file: the `pre` inside the model's `setup`, given a name -/
def stage (v : Variant) (s : FS) (content dns : Bytes) : List Prim :=
  [.openRead .live, .unlink .tmp] ++ (if s.tmp = .absent then [.rmdir .tmp] else []) ++ [.creat .tmp]
    ++ (chunks v content dns).map (.append .tmp)

theorem stage_tmpOnly (v : Variant) (s : FS) (content dns : Bytes) : ∀ p ∈ stage v s content dns, p.tmpOnly = true := by
  unfold stage
  simp only [List.forall_mem_append, List.forall_mem_map]
  exact ⟨⟨⟨by decide, by split <;> decide⟩, by decide⟩, fun _ _ => rfl⟩

theorem applyAll_stage (v : Variant) (s : FS) (content dns : Bytes) :
    applyAll s (stage v s content dns) = { s with tmp := .file (render v content dns) } := by
  -- the right side is the writes applied to `{ s with tmp := .file [] }`, which the calls before them leave
  rw [stage, applyAll_append, render, ← List.nil_append (chunks v content dns).flatten, ← applyAll_appends]
  split <;> rfl

theorem ne_absent_of_readThrough {s : FS} {n : Node} {content : Bytes} (h : readThrough s n = some content) :
    n ≠ .absent := by
  rintro rfl; cases h

theorem setup_unreadable (v : Variant) (s : FS) (dns : Bytes) (h : readThrough s s.live = none)
    {pre : List Prim} (hp : pre <+: (setup v s dns).1) : applyAll s pre = s := by
  have he : setup v s dns = ([.openRead .live], .errOpen) := by simp [setup, h]
  rw [he] at hp
  rcases prefix_one hp with rfl | rfl <;> rfl

theorem setup_scan_fails (v : Variant) (s : FS) (dns content : Bytes) (h : readThrough s s.live = some content)
    (hs : (scan content).2 = true) : setup v s dns = (stage v s content dns, .errScan) := by
  simp [setup, h, hs, stage]

theorem setup_ok (v : Variant) (s : FS) (dns content : Bytes) (h : readThrough s s.live = some content)
    (hs : (scan content).2 = false) :
    setup v s dns = (stage v s content dns ++ (if bakExists v s then [] else [.rename .live .bak]) ++ [.rename .tmp .live], .ok) := by
  simp [setup, h, hs, stage]

/-- **the states an activation can be killed in**: nothing but the staging name has changed yet (an activation that
gives up on a line of 64 KiB or more ends here as well); or (first activation) resolv.conf has just become the backup
and there is no live file; or the complete rendering is live and the backup is the one that existed, else the
previous resolv.conf -/
theorem setup_prefix (v : Variant) (s : FS) (dns content : Bytes) (hr : readThrough s s.live = some content)
    (pre : List Prim) (hp : pre <+: (setup v s dns).1) :
    ((applyAll s pre).live = s.live ∧ (applyAll s pre).bak = s.bak) ∨
    (bakExists v s = false ∧ (applyAll s pre).live = .absent ∧ (applyAll s pre).bak = s.live) ∨
    ((applyAll s pre).live = .file (render v content dns) ∧
      (applyAll s pre).bak = if bakExists v s then s.bak else s.live) := by
  have keep : ∀ q, q <+: stage v s content dns →
      (applyAll s q).live = s.live ∧ (applyAll s q).bak = s.bak := fun q hq =>
    applyAll_tmpOnly s q fun p hpq => stage_tmpOnly v s content dns p (hq.subset hpq)
  cases hs : (scan content).2 with
  | true =>
    rw [setup_scan_fails v s dns content hr hs] at hp
    exact .inl (keep pre hp)
  | false =>
    rw [setup_ok v s dns content hr hs] at hp
    have e1 : applyAll s (stage v s content dns ++ [.rename .live .bak]) =
        ⟨.absent, s.live, .file (render v content dns), s.ext⟩ := by
      rw [applyAll_append, applyAll_stage]; exact apply_rename _ _ _ (ne_absent_of_readThrough hr)
    -- peel the calls off the end: the last rename, then (first activation) the one before it
    cases hbe : bakExists v s with
    | true =>
      rw [hbe, if_pos rfl, List.append_nil] at hp
      rcases List.prefix_concat_iff.mp hp with rfl | hq
      · rw [applyAll_append, applyAll_stage]; exact .inr (.inr ⟨rfl, rfl⟩)
      · exact .inl (keep pre hq)
    | false =>
      rw [hbe, if_neg Bool.false_ne_true] at hp
      rcases List.prefix_concat_iff.mp hp with rfl | hp
      · rw [applyAll_append, e1]; exact .inr (.inr ⟨rfl, rfl⟩)
      · rcases List.prefix_concat_iff.mp hp with rfl | hq
        · rw [e1]; exact .inr (.inl ⟨rfl, rfl, rfl⟩)
        · exact .inl (keep pre hq)

end NV.FS
