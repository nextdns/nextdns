/-
  NV.Lemmas.Pool — for C01: `Inv` (a buffer has one holder at most, none while pooled) under every disciplined schedule.
-/
import NV.Model.Pool
namespace NV.Pool

theorem inv_init : Inv init := by simp [Inv, init]

theorem length_erase_le {α} [BEq α] [LawfulBEq α] (l : List α) (a : α) : (l.erase a).length ≤ l.length :=
  List.length_erase_le

theorem len_le_one_contains (l : List Nat) (t : Nat) (h : l.length ≤ 1) (hc : l.contains t = true) : l = [t] := by
  match l, h with
  | [], _ => simp at hc
  | [x], _ => simp at hc; simp [hc]
  | _ :: _ :: _, h => simp at h

theorem upd_self {α : Type} (f : Nat → α) (b : Nat) : upd f b (f b) = f := by
  funext x; unfold upd; split <;> simp [*]

/-- The invariant speaks of each buffer separately, and every operation rewrites the entry of one buffer `b` (in a
field it leaves alone, by `upd_self`) and never lowers `next`: it suffices that the new entry of `b` is good. -/
theorem inv_upd {s s' : S} (hi : Inv s) (hn : s.next ≤ s'.next) (b : Nat) {hs : List Nat} {p : Bool}
    (hh : s'.holders = upd s.holders b hs) (hp : s'.inPool = upd s.inPool b p)
    (h1 : hs.length ≤ 1) (h2 : p = true → hs = []) (h3 : s'.next ≤ b → hs = [] ∧ p = false) : Inv s' := by
  obtain ⟨i1, i2, i3⟩ := hi
  refine ⟨fun x => ?_, fun x => ?_, fun x hx => ?_⟩ <;> simp only [hh, hp, upd] <;> split
  · exact h1
  · exact i1 x
  · exact h2
  · exact i2 x
  · next e => exact h3 (e ▸ hx)
  · exact i3 x (Nat.le_trans hn hx)

theorem inv_step (s : S) (o : Op) (hi : Inv s) (he : enabled s o = true) (hd : disciplined s o = true) :
    Inv (apply s o) := by
  have ⟨h1, h2, h3⟩ := hi
  -- a buffer somebody holds has been allocated
  have hlt : ∀ {t b}, (s.holders b).contains t = true → s.holders b = [t] ∧ ¬ s.next ≤ b := fun {t b} hc =>
    have hb := len_le_one_contains _ _ (h1 b) hc
    ⟨hb, fun hle => by simp [(h3 b hle).1] at hb⟩
  cases o with
  | get t b =>
    exact inv_upd hi (Nat.le_refl _) b rfl rfl (by simp [h2 b he]) (by simp)
      (fun hle => by simp [enabled, (h3 b hle).2] at he)
  | new t =>
    exact inv_upd hi (Nat.le_succ _) s.next rfl (upd_self s.inPool s.next).symm (hs := [t]) (by simp)
      (by simp [(h3 _ (Nat.le_refl _)).2]) (fun hle => absurd hle (Nat.not_succ_le_self _))
  | put t b =>
    obtain ⟨hb, hn⟩ := hlt hd
    exact inv_upd hi (Nat.le_refl _) b rfl rfl (by simp [hb]) (by simp [hb]) (fun hle => absurd hle hn)
  | hand t u b =>
    obtain ⟨hb, hn⟩ := hlt hd
    exact inv_upd hi (Nat.le_refl _) b rfl (upd_self s.inPool b).symm (by simp [hb])
      (fun hp => by simp [h2 b hp] at hb) (fun hle => absurd hle hn)
  | drop t b =>
    obtain ⟨hb, hn⟩ := hlt hd
    exact inv_upd hi (Nat.le_refl _) b rfl (upd_self s.inPool b).symm (by simp [hb])
      (fun _ => by simp [hb]) (fun hle => absurd hle hn)
  | gc b =>
    exact inv_upd hi (Nat.le_refl _) b (upd_self s.holders b).symm rfl (h1 b) (by simp)
      (fun hle => ⟨(h3 b hle).1, rfl⟩)

/-- every step is disciplined in the state it is taken in -/
def allDisciplined (s : S) : List Op → Bool
  | [] => true
  | o :: os => disciplined s o && allDisciplined (apply s o) os

theorem run_induct {P : S → Prop}
    (hstep : ∀ s o, P s → enabled s o = true → disciplined s o = true → P (apply s o)) :
    ∀ (os : List Op) (s s' : S), P s → allDisciplined s os = true → run s os = some s' → P s' := by
  intro os
  induction os with
  | nil => intro s s' hi _ hr; simp [run] at hr; subst hr; exact hi
  | cons o os ih =>
    intro s s' hi hd hr
    simp only [allDisciplined, Bool.and_eq_true] at hd
    simp only [run] at hr
    split at hr
    · next he => exact ih _ _ (hstep s o hi he hd.1) hd.2 hr
    · cases hr

theorem inv_run : ∀ (os : List Op) (s s' : S), Inv s → allDisciplined s os = true → run s os = some s' → Inv s' :=
  run_induct inv_step

end NV.Pool
