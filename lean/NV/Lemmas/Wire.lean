/-
  NV.Lemmas.Wire — the byte accessors along `++`, `take`, `drop` and `setBytes`; `At` for reading an
  encoded message field by field.
-/
import NV.Model.Wire
namespace NV

theorem b8_toNat_mod (n : Nat) : (b8 n).toNat = n % 256 := by
  unfold b8; simp [UInt8.toNat_ofNat']

theorem b8_toNat (n : Nat) (h : n < 256) : (b8 n).toNat = n := by
  rw [b8_toNat_mod, Nat.mod_eq_of_lt h]

theorem b8_toNat_self (x : UInt8) : b8 x.toNat = x :=
  UInt8.toNat_inj.mp (b8_toNat _ (UInt8.toNat_lt x))

@[simp] theorem be16_length (n : Nat) : (be16 n).length = 2 := rfl
@[simp] theorem be32_length (n : Nat) : (be32 n).length = 4 := rfl

theorem byteAt_eq (b : Bytes) (i : Nat) (h : i < b.length) : byteAt b i = (b[i]).toNat := by
  simp [byteAt, List.getD_eq_getElem?_getD, h]

@[simp] theorem byteAt_cons_zero (a : UInt8) (B : Bytes) : byteAt (a :: B) 0 = a.toNat := by
  simp [byteAt]

@[simp] theorem byteAt_cons_succ (a : UInt8) (B : Bytes) (i : Nat) : byteAt (a :: B) (i + 1) = byteAt B i := by
  simp [byteAt]

theorem byteAt_append_left (A B : Bytes) (i : Nat) (h : i < A.length) : byteAt (A ++ B) i = byteAt A i := by
  unfold byteAt; simp [List.getD_eq_getElem?_getD, List.getElem?_append_left h]

theorem byteAt_append_right (A B : Bytes) (i : Nat) : byteAt (A ++ B) (A.length + i) = byteAt B i := by
  unfold byteAt; simp [List.getD_eq_getElem?_getD, List.getElem?_append_right]

theorem byteAt_append_of_le (A B : Bytes) (i : Nat) (h : A.length ≤ i) :
    byteAt (A ++ B) i = byteAt B (i - A.length) := by
  rw [← byteAt_append_right A B (i - A.length), Nat.add_sub_cancel' h]

theorem byteAt_take (l : Bytes) {n i : Nat} (h : i < n) : byteAt (l.take n) i = byteAt l i := by
  simp [byteAt, List.getD_eq_getElem?_getD, h]

theorem byteAt_drop (m : Bytes) (k j : Nat) : byteAt (m.drop k) j = byteAt m (k + j) := by
  simp [byteAt, List.getD_eq_getElem?_getD]

/-! A big-endian read depends only on the bytes it covers. -/

theorem rd16_congr {a b : Bytes} {i j : Nat} (h : ∀ k < 2, byteAt a (i + k) = byteAt b (j + k)) :
    rd16 a i = rd16 b j := by
  unfold rd16
  rw [show byteAt a i = byteAt b j from h 0 (by omega), h 1 (by omega)]

theorem rd32_congr {a b : Bytes} {i j : Nat} (h : ∀ k < 4, byteAt a (i + k) = byteAt b (j + k)) :
    rd32 a i = rd32 b j := by
  unfold rd32
  rw [show byteAt a i = byteAt b j from h 0 (by omega), h 1 (by omega), h 2 (by omega), h 3 (by omega)]

theorem rd16_append_left (A B : Bytes) (o : Nat) (h : o + 2 ≤ A.length) : rd16 (A ++ B) o = rd16 A o :=
  rd16_congr fun _ _ => byteAt_append_left _ _ _ (by omega)

theorem rd32_append_left (A B : Bytes) (o : Nat) (h : o + 4 ≤ A.length) : rd32 (A ++ B) o = rd32 A o :=
  rd32_congr fun _ _ => byteAt_append_left _ _ _ (by omega)

theorem rd16_append_right (A B : Bytes) (i : Nat) : rd16 (A ++ B) (A.length + i) = rd16 B i :=
  rd16_congr fun _ _ => by rw [Nat.add_assoc, byteAt_append_right]

theorem rd32_append_right (A B : Bytes) (i : Nat) : rd32 (A ++ B) (A.length + i) = rd32 B i :=
  rd32_congr fun _ _ => by rw [Nat.add_assoc, byteAt_append_right]

theorem rd16_take (m : Bytes) (k o : Nat) (h : o + 2 ≤ k) : rd16 (m.take k) o = rd16 m o :=
  rd16_congr fun _ _ => byteAt_take _ (by omega)

theorem rd32_take (m : Bytes) (k o : Nat) (h : o + 4 ≤ k) : rd32 (m.take k) o = rd32 m o :=
  rd32_congr fun _ _ => byteAt_take _ (by omega)

theorem rd16_drop (m : Bytes) (k o : Nat) : rd16 (m.drop k) o = rd16 m (k + o) :=
  rd16_congr fun _ _ => by rw [byteAt_drop, Nat.add_assoc]

theorem rd16_be16 (n : Nat) (B : Bytes) (h : n < 65536) : rd16 (be16 n ++ B) 0 = n := by
  show (b8 (n / 256)).toNat * 256 + (b8 n).toNat = n
  rw [b8_toNat _ (Nat.div_lt_of_lt_mul h), b8_toNat_mod, Nat.div_add_mod']

theorem rd32_be32 (n : Nat) (B : Bytes) (h : n < 4294967296) : rd32 (be32 n ++ B) 0 = n := by
  show (b8 (n / 16777216)).toNat * 16777216 + (b8 (n / 65536)).toNat * 65536 +
    (b8 (n / 256)).toNat * 256 + (b8 n).toNat = n
  simp only [b8_toNat_mod]
  -- as one chain of divisions by 256 `omega` has three quotients to relate, not three unrelated ones
  rw [show n / 65536 = n / 256 / 256 by rw [Nat.div_div_eq_div_mul],
    show n / 16777216 = n / 256 / 256 / 256 by rw [Nat.div_div_eq_div_mul, Nat.div_div_eq_div_mul]]
  omega

theorem slice_append_right (A B : Bytes) (i n : Nat) : slice (A ++ B) (A.length + i) n = slice B i n := by
  unfold slice; rw [List.drop_length_add_append]

theorem slice_prefix (d B : Bytes) : slice (d ++ B) 0 d.length = d := by
  unfold slice; simp

theorem slice_prefix' (d B : Bytes) (n : Nat) (h : n = d.length) : slice (d ++ B) 0 n = d := by
  subst h; exact slice_prefix d B

/-! ### `At msg off X`: the bytes `X` stand in `msg` at offset `off`

Reading an encoded message front to back is a walk along `At`: `left`/`right` split an encoded
concatenation without re-associating the message, the accessor lemmas read its first field. -/

def At (msg : Bytes) (off : Nat) (X : Bytes) : Prop := ∃ A B, msg = A ++ (X ++ B) ∧ A.length = off

namespace At
variable {msg X Y : Bytes} {off : Nat}

theorem intro (A X B : Bytes) : At (A ++ (X ++ B)) A.length X := ⟨A, B, rfl, rfl⟩

theorem suffix (A X : Bytes) : At (A ++ X) A.length X := ⟨A, [], by rw [List.append_nil], rfl⟩

theorem self (X : Bytes) : At X 0 X := ⟨[], [], by simp, rfl⟩

theorem of_eq (h : msg = X) : At msg 0 X := h ▸ self X

theorem left (h : At msg off (X ++ Y)) : At msg off X := by
  obtain ⟨A, B, rfl, rfl⟩ := h
  exact ⟨A, Y ++ B, by simp, rfl⟩

theorem right (h : At msg off (X ++ Y)) : At msg (off + X.length) Y := by
  obtain ⟨A, B, rfl, rfl⟩ := h
  exact ⟨A ++ X, B, by simp, by simp⟩

theorem tail {b : UInt8} (h : At msg off (b :: X)) : At msg (off + 1) X := right (X := [b]) h

theorem le (h : At msg off X) : off + X.length ≤ msg.length := by
  obtain ⟨A, B, rfl, rfl⟩ := h
  simp

theorem lt {b : UInt8} (h : At msg off (b :: X)) : off < msg.length :=
  Nat.lt_of_lt_of_le (Nat.lt_add_of_pos_right (Nat.succ_pos _)) h.le

-- `protected`: inside this namespace the bare names go on meaning the functions the lemmas are named after
protected theorem byteAt {b : UInt8} (h : At msg off (b :: X)) : byteAt msg off = b.toNat := by
  obtain ⟨A, B, rfl, rfl⟩ := h
  exact byteAt_append_right A _ 0

protected theorem slice (h : At msg off X) : slice msg off X.length = X := by
  obtain ⟨A, B, rfl, rfl⟩ := h
  exact (slice_append_right A _ 0 _).trans (slice_prefix X B)

protected theorem rd16 {n : Nat} (h : At msg off (be16 n)) (hn : n < 65536) : rd16 msg off = n := by
  obtain ⟨A, B, rfl, rfl⟩ := h
  exact (rd16_append_right A _ 0).trans (rd16_be16 n B hn)

protected theorem rd32 {n : Nat} (h : At msg off (be32 n)) (hn : n < 4294967296) : rd32 msg off = n := by
  obtain ⟨A, B, rfl, rfl⟩ := h
  exact (rd32_append_right A _ 0).trans (rd32_be32 n B hn)

end At

/-- `v` written over `d`. Under `rw` with `_` for `v` and `d`, give `h` as `(by rfl)`: a bare `rfl` is elaborated
first and makes `d := v` -/
theorem setBytes_mid (v P d S : Bytes) (h : v.length = d.length) :
    setBytes (P ++ (d ++ S)) P.length v = P ++ (v ++ S) := by
  induction v generalizing P d with
  | nil => rw [List.eq_nil_of_length_eq_zero h.symm]; rfl
  | cons x v ih =>
    match d, h with
    | y :: d, h =>
      -- the first byte is written behind `P`, the rest behind `P ++ [x]`
      have := ih (P ++ [x]) d (by simpa using h)
      simpa [setBytes] using this

theorem setBytes_eq (m : Bytes) (off : Nat) (vs : Bytes) (h : off + vs.length ≤ m.length) :
    setBytes m off vs = m.take off ++ vs ++ m.drop (off + vs.length) := by
  -- `m` cut at `off` and at `off + vs.length`
  have := setBytes_mid vs (m.take off) ((m.drop off).take vs.length) ((m.drop off).drop vs.length)
    (by rw [List.length_take, List.length_drop]; omega)
  rwa [List.take_append_drop, List.take_append_drop, List.length_take, Nat.min_eq_left (by omega),
    List.drop_drop, ← List.append_assoc] at this

theorem setBytes_drop (m : Bytes) (off : Nat) (vs : Bytes) (k : Nat) (hk : off + vs.length ≤ k) :
    (setBytes m off vs).drop k = m.drop k := by
  induction vs generalizing m off with
  | nil => rfl
  | cons v vs ih =>
    simp only [List.length_cons] at hk
    rw [setBytes, ih _ _ (by omega), List.drop_set_of_lt (by omega)]

theorem byteAt_setBytes_out (m : Bytes) (off : Nat) (vs : Bytes) (i : Nat)
    (h : off + vs.length ≤ m.length) (hi : i < off ∨ off + vs.length ≤ i) :
    byteAt (setBytes m off vs) i = byteAt m i := by
  rw [setBytes_eq m off vs h]
  rcases hi with hi | hi
  · rw [List.append_assoc, byteAt_append_left _ _ _ (by simp; omega), byteAt_take _ hi]
  · rw [byteAt_append_of_le _ _ _ (by simp; omega), byteAt_drop]
    congr 1; simp; omega

theorem rd16_setBytes_out (m : Bytes) (off : Nat) (vs : Bytes) (i : Nat)
    (h : off + vs.length ≤ m.length) (hi : i + 2 ≤ off ∨ off + vs.length ≤ i) :
    rd16 (setBytes m off vs) i = rd16 m i :=
  rd16_congr fun _ _ => byteAt_setBytes_out m off vs _ h (by omega)

theorem rd32_setBytes_be32 (m : Bytes) (off n : Nat) (h : off + 4 ≤ m.length) (hn : n < 4294967296) :
    rd32 (setBytes m off (be32 n)) off = n := by
  have := (At.intro (m.take off) (be32 n) (m.drop (off + (be32 n).length))).rd32 hn
  rwa [List.length_take, Nat.min_eq_left (by omega), ← List.append_assoc, ← setBytes_eq m off (be32 n) h] at this

end NV
