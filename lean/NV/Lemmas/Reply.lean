/-
  NV.Lemmas.Reply — `replyRCode`'s header and length; `udpReply` / `tcpReply` in closed form.
  (What `packName` packs to: NV.Lemmas.ReplyName.)
-/
import NV.Lemmas.Wire
import NV.Model.Reply
namespace NV

theorem packLabels_length (name seg out : Bytes) (h : packLabels name seg = some out) :
    out.length = name.length + seg.length + 1 := by
  fun_induction packLabels name seg generalizing out with
  | case1 seg hs => cases h; simp [List.isEmpty_iff.mp hs]
  | case2 => cases h
  | case3 => cases h
  | case4 => cases h
  | case5 rest seg _ _ ih =>
    -- a dot closes the segment: its length byte, the segment, then what the rest packs to
    obtain ⟨tail, ht, rfl⟩ := Option.map_eq_some_iff.mp h
    simp [ih tail ht]; omega
  | case6 c rest seg _ ih => simp [ih out h]; omega

theorem packName_length (name out : Bytes) (h : packName name = some out) : out.length ≤ 256 := by
  unfold packName at h
  split at h
  · cases h
  · next hlen =>
    split at h
    · cases h
    · split at h
      · cases h; decide
      · -- `name.length ≤ 255` by `hlen`
        have := packLabels_length name [] out h
        simp only [List.length_nil] at this
        omega

/-- both branches of `replyRCode` (name packed or not) begin with six header words that differ in QDCOUNT only -/
theorem replyRCode_header (rcode : Nat) (q : Query) : ∃ qd tail, replyRCode rcode q =
    be16 q.id ++ (be16 (32768 + rcode) ++ (be16 qd ++ (be16 0 ++ (be16 0 ++ (be16 0 ++ tail))))) := by
  unfold replyRCode
  cases packName q.name with
  | some n => exact ⟨1, n ++ (be16 q.type ++ be16 q.cls), by simp only [List.append_assoc]⟩
  | none => exact ⟨0, [], by simp only [List.append_assoc, List.append_nil]⟩

/-- the header of a reply the proxy builds itself, for every RCODE -/
theorem replyRCode_shape (rcode : Nat) (q : Query) :
    (replyRCode rcode q).take 4 = be16 q.id ++ be16 (32768 + rcode) ∧
    (q.id < 65536 → rd16 (replyRCode rcode q) 0 = q.id) ∧ rd16 (replyRCode rcode q) 6 = 0 ∧
    rd16 (replyRCode rcode q) 8 = 0 ∧ rd16 (replyRCode rcode q) 10 = 0 := by
  obtain ⟨qd, tail, h⟩ := replyRCode_header rcode q
  have h0 := At.of_eq h
  have h6 := h0.right.right.right
  have h8 := h6.right
  have h10 := h8.right
  simp only [be16_length, Nat.zero_add, Nat.reduceAdd] at h6 h8 h10
  exact ⟨by rw [h]; rfl, h0.left.rd16, h6.left.rd16 (by omega), h8.left.rd16 (by omega), h10.left.rd16 (by omega)⟩

theorem replyRCode_length (rcode : Nat) (q : Query) :
    (replyRCode rcode q).length = 12 + ((packName q.name).elim 0 fun n => n.length + 4) := by
  unfold replyRCode
  cases packName q.name with
  | none => rfl
  | some n => simp only [List.length_append, be16, List.length_cons, List.length_nil, Option.elim]; omega

-- 272 = 12 + 256 + 4
theorem replyRCode_length_bounds (rcode : Nat) (q : Query) :
    12 ≤ (replyRCode rcode q).length ∧ (replyRCode rcode q).length ≤ 272 := by
  rw [replyRCode_length]
  cases h : packName q.name with
  | none => decide
  | some n => have := packName_length q.name n h; simp only [Option.elim]; omega

/-- the truncation block in closed form: the size is cut to the larger of 512 and the advertised
size (`maxDNS0Size` plays no part in the cut); TC is set by the outer test alone. -/
theorem udpTrunc_eq (r m : Nat) :
    udpTrunc r m = (min r (max 512 m), decide (512 < r ∧ (m < r ∨ 4094 < r))) := by
  unfold udpTrunc maxUDPSize maxDNS0Size
  by_cases hc : r > 512 ∧ (r > m ∨ r > 4094)
  · rw [if_pos hc, decide_eq_true hc]
    by_cases hm : m > 512
    · rw [if_pos hm, Nat.max_eq_right (Nat.le_of_lt hm)]
      by_cases hr : r > m
      · rw [if_pos hr, Nat.min_eq_right (Nat.le_of_lt hr)]
      · rw [if_neg hr, Nat.min_eq_left (Nat.not_lt.mp hr)]
    · rw [if_neg hm, Nat.max_eq_left (Nat.not_lt.mp hm), Nat.min_eq_right (Nat.le_of_lt hc.1)]
  -- no cut: `r` is at most 512, or at most `m`
  · rw [if_neg hc, decide_eq_false hc, Nat.min_eq_left (by omega)]

theorem resolved_bytes (q : Query) (m : Bytes) (h1 : 1 ≤ m.length) (h2 : m.length ≤ 65535) :
    resolved q (.bytes m) = m := by
  simp only [resolved, maxTCPSize]
  exact if_neg (by omega)

theorem resolved_length_bounds (q : Query) (o : Outcome) :
    1 ≤ (resolved q o).length ∧ (resolved q o).length ≤ 65535 := by
  have := replyRCode_length_bounds 2 q
  unfold resolved maxTCPSize
  split
  · omega
  · split <;> omega

theorem ite_setTC_length (c : Prop) [Decidable c] (m : Bytes) : (if c then setTC m else m).length = m.length := by
  split
  · exact List.length_set
  · rfl

theorem byteAt_setTC (m : Bytes) (h : 2 < m.length) : byteAt (setTC m) 2 = byteAt m 2 ||| 2 := by
  have hx : byteAt m 2 ||| 2 < 2 ^ 8 := Nat.or_lt_two_pow (byteAt_lt m 2) (by decide)
  rw [setTC, byteAt_eq (m.set 2 _) 2 (by rwa [List.length_set]), List.getElem_set_self, UInt8.toNat_ofNat']
  exact Nat.mod_eq_of_lt hx

/-- bit 1, the TC bit, is set -/
theorem or2_bit (x : Nat) : ((x ||| 2) / 2) % 2 = 1 := by
  rw [Nat.or_div_two, Nat.or_mod_two_eq_one]; exact .inr rfl

/-- the datagram: the answer, with TC set when it is over 512 bytes and over the advertised size or
4094, cut to the larger of 512 and the advertised size -/
theorem udpReply_eq (q : Query) (o : Outcome) :
    udpReply q o =
      (if 512 < (resolved q o).length ∧ (q.msgSize < (resolved q o).length ∨ 4094 < (resolved q o).length)
        then setTC (resolved q o) else resolved q o).take (max 512 q.msgSize) := by
  unfold udpReply
  dsimp only
  rw [udpTrunc_eq]
  dsimp only
  simp only [decide_eq_true_eq]
  -- cutting a list of length `r` to `min r M` is cutting it to `M`
  rw [List.take_eq_take_iff, ite_setTC_length]
  omega

theorem udpReply_length (q : Query) (o : Outcome) :
    (udpReply q o).length = min (resolved q o).length (max 512 q.msgSize) := by
  rw [udpReply_eq, List.length_take, ite_setTC_length, Nat.min_comm]

/-- the frame: `% 65536` never bites, the answer being at most 65535 bytes long -/
theorem tcpReply_eq (q : Query) (o : Outcome) : tcpReply q o = be16 (resolved q o).length ++ resolved q o := by
  have := (resolved_length_bounds q o).2
  unfold tcpReply
  dsimp only
  rw [Nat.mod_eq_of_lt (by omega)]

end NV
