/-
  NV.Lemmas.Listen — `NV.Listen.step` as a relation. Six of the ten actions are moves of one listener
  thread that differ only in how the thread's record changes; `LStep` is that move, `Step` the system
  step. Invariants are proved by cases on `Step`, with one fact per invariant about `LStep`.
-/
import NV.Model.Listen
import NV.Lemmas.ListSet
namespace NV.Listen

/-- one atomic move of a listener thread while the shutdown flag is `cf`: `l` becomes `l'`, queues the
results `es` and cancels the context iff `c` -/
inductive LStep (cf : Bool) : L → L → List Err → Bool → Prop
  | bindFail {l : L} : l.pc = .start → LStep cf l { l with pc := .failed, bindFailed := true } [] false
  | bindOk {l : L} : l.pc = .start → LStep cf l { l with pc := .bound, sockOpen := true } [] false
  | registerLate {l : L} : l.pc = .bound → cf = true →
      LStep cf l { l with pc := .serving, sockOpen := false } [] false
  | register {l : L} : l.pc = .bound → cf = false →
      LStep cf l { l with pc := .serving, registered := true } [] false
  | serveRet {l : L} : l.pc = .serving → l.sockOpen = false → LStep cf l { l with pc := .ret } [] false
  | sendBind {l : L} : l.pc = .failed → LStep cf l { l with pc := .sent } [.bind] false
  | sendClosed {l : L} : l.pc = .ret → LStep cf l { l with pc := .sent } [.closed] false
  | cancel {l : L} : l.pc = .sent → LStep cf l { l with pc := .done } [] true

inductive Step : S → S → Prop
  | listener {s : S} {i : Nat} {l : L} (l' : L) {es : List Err} {c : Bool} :
      s.ls[i]? = some l → LStep s.closedFlag l l' es c →
      Step s { s with ls := s.ls.set i l', errs := s.errs ++ es, cancelled := s.cancelled || c }
  | wake {s : S} : s.mpc = .waiting → s.cancelled = true →
      Step s { s with mpc := .pushed, errs := s.errs ++ [.canceled] }
  | sweep {s : S} : s.mpc = .pushed →
      Step s { s with mpc := .swept, closedFlag := true, ls := s.ls.map closeRegistered }
  | collect {s : S} : s.mpc = .swept → allReported s.ls = true →
      Step s { s with mpc := .returned (firstErr s.errs) }
  | stop {s : S} : s.stopped = false → Step s { s with stopped := true, cancelled := true }

/-- the six listener actions first look their thread up -/
private theorem Step.of_lookup {s s' : S} {i : Nat} {f : L → Option S}
    (hs : (match s.ls[i]? with | some l => f l | none => none) = some s')
    (hf : ∀ l, s.ls[i]? = some l → f l = some s' → Step s s') : Step s s' := by
  split at hs
  · next l hg => exact hf l hg hs
  · cases hs

theorem Step.silent {s : S} {i : Nat} {l l' : L} (hg : s.ls[i]? = some l)
    (h : LStep s.closedFlag l l' [] false) : Step s { s with ls := s.ls.set i l' } := by
  simpa using Step.listener l' hg h

theorem Step.of_step {s s' : S} {a : Act} (hs : step s a = some s') : Step s s' := by
  cases a with
  | bindFail i =>
    refine Step.of_lookup hs fun l hg h => ?_
    obtain ⟨hp, ⟨⟩⟩ := Option.ite_none_right_eq_some.1 h
    exact .silent hg (.bindFail hp)
  | bindOk i =>
    refine Step.of_lookup hs fun l hg h => ?_
    obtain ⟨hp, ⟨⟩⟩ := Option.ite_none_right_eq_some.1 h
    exact .silent hg (.bindOk hp)
  | register i =>
    refine Step.of_lookup hs fun l hg h => ?_
    obtain ⟨hp, h⟩ := Option.ite_none_right_eq_some.1 h
    split at h <;> cases h
    · next hcf => exact .silent hg (.registerLate hp hcf)
    · next hcf => exact .silent hg (.register hp (Bool.eq_false_iff.2 hcf))
  | serveRet i =>
    refine Step.of_lookup hs fun l hg h => ?_
    obtain ⟨hp, ⟨⟩⟩ := Option.ite_none_right_eq_some.1 h
    exact .silent hg (.serveRet hp.1 hp.2)
  | send i =>
    refine Step.of_lookup hs fun l hg h => ?_
    split at h
    · next hp => cases h; simpa using Step.listener _ hg (.sendBind hp)
    · obtain ⟨hp, ⟨⟩⟩ := Option.ite_none_right_eq_some.1 h
      simpa using Step.listener _ hg (.sendClosed hp)
  | cancel i =>
    refine Step.of_lookup hs fun l hg h => ?_
    obtain ⟨hp, ⟨⟩⟩ := Option.ite_none_right_eq_some.1 h
    simpa using Step.listener _ hg (.cancel hp)
  | wake => obtain ⟨hp, ⟨⟩⟩ := Option.ite_none_right_eq_some.1 hs; exact .wake hp.1 hp.2
  | sweep => obtain ⟨hp, ⟨⟩⟩ := Option.ite_none_right_eq_some.1 hs; exact .sweep hp
  | collect => obtain ⟨hp, ⟨⟩⟩ := Option.ite_none_right_eq_some.1 hs; exact .collect hp.1 hp.2
  | stop => obtain ⟨hp, ⟨⟩⟩ := Option.ite_none_right_eq_some.1 hs; exact .stop hp

theorem closeRegistered_eq (l : L) :
    closeRegistered l = { l with sockOpen := l.sockOpen && !l.registered } := by
  rcases l with ⟨_, _, _ | _, _⟩ <;> simp [closeRegistered]

theorem closeRegistered_pc (l : L) : (closeRegistered l).pc = l.pc := by rw [closeRegistered_eq]

-- `Listen.init`: inside a declaration named `Reachable.…` a bare `init` is the constructor `Reachable.init`
theorem Reachable.induct {n : Nat} {P : S → Prop} {s : S} (h : Reachable n s) (h0 : P (Listen.init n))
    (hstep : ∀ {s s'}, Reachable n s → P s → Step s s' → P s') : P s := by
  induction h with
  | init => exact h0
  | step hr hs ih => exact hstep hr ih (Step.of_step hs)

theorem Reachable.run {n : Nat} {s s' : S} (h : Reachable n s) {as : List Act} (hr : run s as = some s') :
    Reachable n s' := by
  induction as generalizing s with
  | nil => cases hr; exact h
  | cons a as ih =>
    simp only [Listen.run] at hr
    split at hr
    · next hs => exact ih (h.step hs) hr
    · cases hr

end NV.Listen
