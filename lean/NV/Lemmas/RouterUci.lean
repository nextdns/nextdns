/-
  NV.Lemmas.RouterUci — openwrt's uci store under Setup followed by Restore, in non-cache mode, for all
  constants, Router values and states.  The text functions applied to what `uci get` prints are brought to
  core's (`trimSpace` is two `List.dropWhile`s, `splitSp` is `List.splitOn`, `joinSp` is `List.intercalate`),
  so that core's lemmas and those of NV.Lemmas.ListText apply.  Setup followed by Restore acts on the store as
  `uci del_list dhcp.lan.dhcp_option=6,<ip>; uci commit` would (`ow_setup_restore_delList`) — as a map: a key
  that is deleted and added again moves to the end of the association list.  (What a single uci command does to the
  store is in NV.Lemmas.Router.)
-/
import NV.Lemmas.Router
import NV.Lemmas.ListText
namespace NV.Router
open NV.ListText

theorem kServer_ne_kDhcpOpt : kServer ≠ kDhcpOpt := by decide
theorem kServer_ne_kLanIP : kServer ≠ kLanIP := by decide
theorem kServer_ne_kPort : kServer ≠ kPort := by decide
theorem kDhcpOpt_ne_kLanIP : kDhcpOpt ≠ kLanIP := by decide
theorem kDhcpOpt_ne_kPort : kDhcpOpt ≠ kPort := by decide
theorem kLanIP_ne_kPort : kLanIP ≠ kPort := by decide

theorem dropWs_eq (b : Bytes) : dropWs b = b.dropWhile isWs := by
  induction b with
  | nil => rfl
  | cons c r ih => rw [dropWs, List.dropWhile_cons, ih]

theorem trimSpace_eq (b : Bytes) : trimSpace b = ((b.dropWhile isWs).reverse.dropWhile isWs).reverse := by
  rw [trimSpace, dropWs_eq, dropWs_eq]

theorem trimSpace_eq_self {b : Bytes} (h : Trimmed isWs b) : trimSpace b = b := by
  rw [trimSpace_eq, dropWhile_of_head? h.1, dropWhile_of_head? (by simpa using h.2), List.reverse_reverse]

theorem trimSpace_last (x : Bytes) (c : UInt8) (h : (trimSpace x).getLast? = some c) : isWs c = false := by
  rw [trimSpace_eq, List.getLast?_reverse] at h
  exact head?_dropWhile h

/-- the white space around `e` goes, `e` stays -/
theorem trimSpace_append_keep (p q : Bytes) {e : Bytes} (hne : e ≠ []) (h : Trimmed isWs e) :
    trimSpace (p ++ e ++ q) = p.dropWhile isWs ++ e ++ (q.reverse.dropWhile isWs).reverse := by
  rw [trimSpace_eq, dropWhile_append_keep p q hne h.1]
  have hr : (p.dropWhile isWs ++ e ++ q).reverse = q.reverse ++ e.reverse ++ (p.dropWhile isWs).reverse := by simp
  rw [hr, dropWhile_append_keep _ _ (by simpa using hne) (by simpa using h.2)]
  simp

theorem splitSpAux_eq (b cur : Bytes) : splitSpAux b cur = List.splitOnPPrepend (· == 32) b cur.reverse := by
  induction b generalizing cur with
  | nil => simp [splitSpAux]
  | cons c r ih => simp [splitSpAux, List.splitOnPPrepend_cons_eq_if, ih]

theorem splitSp_eq (b : Bytes) : splitSp b = b.splitOn 32 := splitSpAux_eq b []

theorem joinSp_eq (vs : List Bytes) : joinSp vs = [32].intercalate vs := by
  induction vs with
  | nil => rfl
  | cons a r ih => cases r <;> simp [joinSp, ih]

theorem splitSp_joinSp (vs : List Bytes) (hne : vs ≠ []) (h : ∀ v ∈ vs, (32 : UInt8) ∉ v) :
    splitSp (joinSp vs) = vs := by
  rw [splitSp_eq, joinSp_eq]
  exact List.splitOn_intercalate 32 h hne

theorem not_mem_32_of_no_ws (v : Bytes) (h : ∀ ch ∈ v, isWs ch = false) : (32 : UInt8) ∉ v := by
  intro hm
  have := h 32 hm
  simp [isWs] at this

theorem joinSp_ends (vs : List Bytes) (hne : vs ≠ []) (h : ∀ v ∈ vs, v ≠ [] ∧ ∀ ch ∈ v, isWs ch = false) :
    joinSp vs ≠ [] ∧ Trimmed isWs (joinSp vs) := by
  induction vs with
  | nil => exact absurd rfl hne
  | cons a rest ih =>
    rw [List.forall_mem_cons] at h
    have ha : Trimmed isWs a := .of_forall h.1.2
    cases rest with
    | nil => exact ⟨h.1.1, ha⟩
    | cons b r =>
      -- the text ends as the text of `b :: r` ends, which is not empty
      obtain ⟨hj, ht⟩ := ih (List.cons_ne_nil _ _) h.2
      obtain ⟨y, ys, e⟩ := List.exists_cons_of_ne_nil hj
      simp only [joinSp]
      exact ⟨by simp [h.1.1], .append ha.1 h.1.1 (by rw [e, List.getLast?_cons_cons, ← e]; exact ht.2)
        (List.cons_ne_nil _ _)⟩

theorem trimSpace_joinSp (vs : List Bytes) (hne : vs ≠ []) (h : ∀ v ∈ vs, v ≠ [] ∧ ∀ ch ∈ v, isWs ch = false) :
    trimSpace (joinSp vs) = joinSp vs :=
  trimSpace_eq_self (joinSp_ends vs hne h).2

theorem isPrefix_append_self (p q : Bytes) : isPrefix p (p ++ q) = true := by
  induction p with
  | nil => cases q <;> rfl
  | cons a p ih => simp [isPrefix, ih]

theorem containsSub_append (pat a q : Bytes) : containsSub pat (a ++ pat ++ q) = true := by
  induction a with
  | nil =>
    cases h : pat ++ q with
    | nil =>
      obtain ⟨hp, hq⟩ := List.append_eq_nil_iff.1 h
      subst hp; subst hq; rfl
    | cons c l =>
      simp only [List.nil_append, h, containsSub]
      rw [← h, isPrefix_append_self]; rfl
  | cons x a ih =>
    simp only [List.cons_append, containsSub, ih, Bool.or_true]

theorem mem_joinSp (e : Bytes) (ds : List Bytes) (h : e ∈ ds) : ∃ p q, joinSp ds = p ++ e ++ q := by
  induction ds with
  | nil => simp at h
  | cons a rest ih =>
    cases rest with
    | nil =>
      have : e = a := by simpa using h
      subst this
      exact ⟨[], [], by simp [joinSp]⟩
    | cons b rest' =>
      rcases List.mem_cons.1 h with rfl | hm
      · exact ⟨[], 32 :: joinSp (b :: rest'), by simp [joinSp]⟩
      · obtain ⟨p, q, hpq⟩ := ih hm
        exact ⟨a ++ 32 :: p, q, by simp [joinSp, hpq]⟩

/-- ensureDHCPOption's `strings.Contains` test finds every list element `pre ++ <ip>`: an element is a
substring of what `uci get` prints, and TrimSpace cannot cut into this one since `pre` and `<ip>` are trimmed -/
theorem not_mem_of_containsSub_eq_false (pre : Bytes) (hne : pre ≠ []) (hpre : Trimmed isWs pre) (x : Bytes)
    (ds : List Bytes) (h : containsSub (pre ++ trimSpace x) (trimSpace (joinSp ds)) = false) :
    (pre ++ trimSpace x) ∉ ds := by
  intro hm
  obtain ⟨p, q, hpq⟩ := mem_joinSp _ ds hm
  have ht : Trimmed isWs (pre ++ trimSpace x) := by
    cases hx : trimSpace x with
    | nil => rwa [List.append_nil]
    | cons c r => exact .append hpre.1 hne (fun c' h' => trimSpace_last x c' (hx ▸ h')) (List.cons_ne_nil c r)
  rw [hpq, trimSpace_append_keep p q (by simp [hne]) ht, containsSub_append] at h
  exact Bool.noConfusion h

theorem owFinish_eq (c : FwConsts) (o : Obj) (s : Sys) (b : Bytes) (hr : renderFw c o = .ok b) :
    owFinish c o s =
      let s1 : Sys := { s with files := aset s.files o.path b }
      match uciGet s kLanIP with
      | none => (false, o, s1)
      | some ip =>
        let r := runCmds c.cmds (if (uciGet s kDhcpOpt).any (containsSub (b!"6," ++ ip)) then s1
          else uciCommit (uciAddList s1 kDhcpOpt (b!"6," ++ ip)))
        (r.1, o, r.2) := by
  unfold owFinish
  rw [writeTemplate_eq c o s b hr]
  simp only [Bool.not_true, Bool.false_eq_true, if_false, uciGet_files]
  cases uciGet s kLanIP with
  | none => rfl
  | some ip => cases uciGet s kDhcpOpt <;> rfl

theorem owFinish_uciS (c : FwConsts) (o : Obj) (s : Sys) (ip b : Bytes)
    (hr : renderFw c o = .ok b) (hip : uciGet s kLanIP = some ip) :
    (owFinish c o s).2.1 = o ∧
    (owFinish c o s).2.2.uciS =
      if (uciGet s kDhcpOpt).any (containsSub (b!"6," ++ ip)) then s.uciS else addList s.uciS kDhcpOpt (b!"6," ++ ip) := by
  rw [owFinish_eq c o s b hr, hip]
  refine ⟨rfl, ?_⟩
  rw [(runCmds_same c.cmds _).uciS]
  split <;> rfl

/-- `owRestore` first puts the saved forwarders back, which acts on uci only; `s1` is the state after that -/
theorem owRestore_eq (c : FwConsts) (o : Obj) (s : Sys) : ∃ s1 : Sys,
    (s1.files = s.files ∧ s1.nvL = s.nvL ∧
      s1.uciS = if o.savedFwd ≠ [] then (splitSp o.savedFwd).foldl (addList · kServer) s.uciS else s.uciS) ∧
    owRestore c o s =
      let s2 := { s1 with files := adel s1.files o.path }
      match uciGet s2 kLanIP with
      | none => (false, o, s2)
      | some ip =>
        let r := runCmds c.cmds (uciCommit (uciDelList s2 kDhcpOpt (b!"6," ++ ip)))
        (r.1, o, r.2) := by
  refine ⟨if o.savedFwd ≠ [] then uciCommit (owRestoreFwd (splitSp o.savedFwd) s) else s, ?_, rfl⟩
  split
  · rw [owRestoreFwd_eq]; exact ⟨rfl, rfl, rfl⟩
  · exact ⟨rfl, rfl, rfl⟩

theorem owRestore_uciC (c : FwConsts) (o : Obj) (s : Sys) (ip : Bytes) (hip : uciGet s kLanIP = some ip) :
    (owRestore c o s).2.2.uciC =
      delList (if o.savedFwd ≠ [] then (splitSp o.savedFwd).foldl (addList · kServer) s.uciS else s.uciS)
        kDhcpOpt (b!"6," ++ ip) := by
  obtain ⟨s1, ⟨-, -, h1⟩, he⟩ := owRestore_eq c o s
  have hip1 : uciGet s1 kLanIP = some ip := by
    rw [← hip]; apply uciGet_congr
    rw [h1]; split
    · rw [aget_foldl_addList, if_neg fun h => kServer_ne_kLanIP h.1]
    · rfl
  rw [he]
  simp only [uciGet_files, hip1]
  rw [(runCmds_same c.cmds _).uciC, ← h1, uciDelList_eq]; rfl

/-- Setup followed by Restore publishes the staged store the user had, minus every `6,<ip>` among the
DHCP options, whatever the service commands return and whether or not Setup found the option there. -/
theorem ow_setup_restore_delList (c : FwConsts) (o : Obj) (s : Sys) (ip : Bytes)
    (hcache : o.cache = false) (hip : uciGet s kLanIP = some ip)
    (hfwd : ∀ vs, aget s.uciS kServer = some vs → vs ≠ [] ∧ ∀ v ∈ vs, v ≠ [] ∧ ∀ ch ∈ v, isWs ch = false)
    (hrender : (writeTemplate c o s).1 = true) :
    let r1 := owSetupDNSMasq c o s
    let r2 := owRestore c r1.2.1 r1.2.2
    ∀ k, aget r2.2.2.uciC k = aget (delList s.uciS kDhcpOpt (b!"6," ++ ip)) k := by
  intro r1 r2 k
  obtain ⟨b, hb, -⟩ := writeTemplate_ok c o s hrender
  -- Setup takes the forwarders out of uci, keeps what `uci get` printed, and goes on to its tail
  obtain ⟨o', s0, hr1, hsf, hb', h0⟩ : ∃ o' s0, r1 = owFinish c o' s0 ∧ o'.savedFwd = (uciGet s kServer).getD [] ∧
      renderFw c o' = .ok b ∧ ∀ k', aget s0.uciS k' = if kServer = k' then none else aget s.uciS k' := by
    refine ⟨{ o with savedFwd := (uciGet s kServer).getD [] },
      if (aget s.uciS kServer).isSome then uciCommit (uciDelete s kServer).2 else s, ?_, rfl,
      (renderFw_savedFwd c o _).trans hb, fun k' => ?_⟩
    · show owSetupDNSMasq c o s = _
      unfold owSetupDNSMasq uciGet
      rw [hcache]
      cases aget s.uciS kServer <;> rfl
    · cases hsrv : aget s.uciS kServer with
      | some vs => exact aget_uciDelete s kServer k'
      | none => exact aget_eq_ite_of_none hsrv k'
  obtain ⟨ho, hS⟩ := owFinish_uciS c o' s0 ip b hb'
    (by rw [uciGet_congr ((h0 kLanIP).trans (if_neg kServer_ne_kLanIP))]; exact hip)
  show aget (owRestore c r1.2.1 r1.2.2).2.2.uciC k = _
  rw [hr1, ho]
  generalize (owFinish c o' s0).2.2 = s1 at hS
  -- Setup's tail may have added `6,<ip>`: `U` is the user's store with or without it
  obtain ⟨U, hU, h1⟩ : ∃ U, (U = s.uciS ∨ U = addList s.uciS kDhcpOpt (b!"6," ++ ip)) ∧
      ∀ k', aget s1.uciS k' = if kServer = k' then none else aget U k' := by
    rw [hS]; split
    · exact ⟨_, .inl rfl, h0⟩
    · refine ⟨_, .inr rfl, fun k' => ?_⟩
      rw [aget_addList, aget_addList, h0, h0, if_neg kServer_ne_kDhcpOpt]
      by_cases hk : kServer = k'
      · rw [if_pos hk, if_pos hk, if_neg (hk ▸ kServer_ne_kDhcpOpt.symm)]
      · rw [if_neg hk, if_neg hk]
  have hUs : ∀ k', kDhcpOpt ≠ k' → aget U k' = aget s.uciS k' := by
    rcases hU with rfl | rfl
    · exact fun _ _ => rfl
    · exact fun k' hk => by rw [aget_addList, if_neg hk]
  have hsrv1 : aget s1.uciS kServer = none := by rw [h1, if_pos rfl]
  have hip1 : uciGet s1 kLanIP = some ip := by
    rw [← hip]; apply uciGet_congr
    rw [h1, if_neg kServer_ne_kLanIP, hUs _ kDhcpOpt_ne_kLanIP]
  rw [owRestore_uciC c o' s1 ip hip1, hsf]
  -- Restore adds the forwarders again, exactly as they were
  generalize hT : (if (uciGet s kServer).getD [] ≠ [] then
    (splitSp ((uciGet s kServer).getD [])).foldl (addList · kServer) s1.uciS else s1.uciS) = T
  have hfs : ∀ k', aget T k' = if kServer = k' then aget s.uciS kServer else aget s1.uciS k' := by
    intro k'; subst hT; unfold uciGet
    cases hsrv : aget s.uciS kServer with
    | none =>
      rw [if_neg (by simp)]
      exact aget_eq_ite_of_none hsrv1 k'
    | some vs =>
      obtain ⟨hne, hvs⟩ := hfwd vs hsrv
      simp only [Option.map_some, Option.getD_some]
      rw [trimSpace_joinSp vs hne hvs, if_pos (joinSp_ends vs hne hvs).1,
        splitSp_joinSp vs hne (fun v hv => not_mem_32_of_no_ws v (hvs v hv).2), aget_foldl_addList, hsrv1]
      simp [hne]
  -- so the store is `U` again, key by key
  have hTU : ∀ k', aget T k' = aget U k' := fun k' => by
    rw [hfs, h1]; split
    · subst ‹kServer = k'›; exact (hUs _ kServer_ne_kDhcpOpt.symm).symm
    · rfl
  rw [aget_delList_congr hTU]
  rcases hU with rfl | rfl
  · rfl
  · exact aget_delList_addList s.uciS ..

/-- `NV.C20.restore_undoes_openwrt_uci_partial`, the general one of the two, under two more hypotheses: the stores
are in sync (`hsync`), and `hopt` also asks that `6,<router ip>` is not in the list — which its third conjunct, the
substring condition, implies; the proof uses the second only. -/
theorem ow_setup_restore_uci (c : FwConsts) (o : Obj) (s : Sys) (ip : Bytes)
    (hsync : s.uciS = s.uciC)
    (hcache : o.cache = false)
    (hip : uciGet s kLanIP = some ip)
    (hopt : ∀ ds, aget s.uciS kDhcpOpt = some ds →
      ds ≠ [] ∧ (b!"6," ++ ip) ∉ ds ∧ containsSub (b!"6," ++ ip) (trimSpace (joinSp ds)) = false)
    (hfwd : ∀ vs, aget s.uciS kServer = some vs → vs ≠ [] ∧ ∀ v ∈ vs, v ≠ [] ∧ ∀ ch ∈ v, isWs ch = false)
    (hrender : (writeTemplate c o s).1 = true) :
    let r1 := owSetupDNSMasq c o s
    let r2 := owRestore c r1.2.1 r1.2.2
    ∀ k, aget r2.2.2.uciC k = aget s.uciC k := by
  intro r1 r2 k
  rw [← hsync]
  exact (ow_setup_restore_delList c o s ip hcache hip hfwd hrender k).trans
    (aget_delList_of_not_mem _ fun ds hd => ⟨(hopt ds hd).1, (hopt ds hd).2.1⟩)

/-- an OpenWrt router with two forwarders and a DHCP option list of the user's own -/
def uciExStore : UStore :=
  [(kLanIP, [b!"192.168.1.1"]), (kServer, [b!"8.8.8.8", b!"1.1.1.1"]), (kDhcpOpt, [b!"3,192.168.1.1"]),
   (kPort, [b!"53"])]

def uciExSys : Sys :=
  { files := [(b!"/etc/os-release", b!"ID=\"openwrt\"\n")], uciS := uciExStore, uciC := uciExStore }

def uciExObj : Obj := { path := Hand.openwrt.path, report := true }

/-- non-vacuity of `ow_setup_restore_uci`: every hypothesis holds on `uciExSys`, and there both sides
of the conclusion are `some …` for the forwarders and for the DHCP options (and both service
command runs succeed) -/
example :
    let c := Hand.openwrt
    let o := uciExObj
    let s := uciExSys
    let ip := b!"192.168.1.1"
    s.uciS = s.uciC ∧ o.cache = false ∧ uciGet s kLanIP = some ip ∧
    (∀ ds, aget s.uciS kDhcpOpt = some ds →
      ds ≠ [] ∧ (b!"6," ++ ip) ∉ ds ∧ containsSub (b!"6," ++ ip) (trimSpace (joinSp ds)) = false) ∧
    (∀ vs, aget s.uciS kServer = some vs → vs ≠ [] ∧ ∀ v ∈ vs, v ≠ [] ∧ ∀ ch ∈ v, isWs ch = false) ∧
    (writeTemplate c o s).1 = true ∧
    (let r1 := owSetupDNSMasq c o s
     let r2 := owRestore c r1.2.1 r1.2.2
     r1.1 = true ∧ r2.1 = true ∧
     aget r1.2.2.uciC kServer = none ∧
     aget r1.2.2.uciC kDhcpOpt = some [b!"3,192.168.1.1", b!"6,192.168.1.1"] ∧
     aget s.uciC kServer = some [b!"8.8.8.8", b!"1.1.1.1"] ∧
     aget r2.2.2.uciC kServer = some [b!"8.8.8.8", b!"1.1.1.1"] ∧
     aget s.uciC kDhcpOpt = some [b!"3,192.168.1.1"] ∧
     aget r2.2.2.uciC kDhcpOpt = some [b!"3,192.168.1.1"] ∧
     -- the store is the same MAP, not the same list: the forwarders moved to the end
     r2.2.2.uciC ≠ s.uciC) := by
  refine ⟨by decide, by decide, by decide +kernel, ?_, ?_, by decide +kernel, by decide +kernel⟩
  · intro ds h
    have h0 : aget uciExSys.uciS kDhcpOpt = some [b!"3,192.168.1.1"] := by decide +kernel
    rw [h0] at h
    cases h
    decide +kernel
  · intro vs h
    have h0 : aget uciExSys.uciS kServer = some [b!"8.8.8.8", b!"1.1.1.1"] := by decide +kernel
    rw [h0] at h
    cases h
    decide +kernel

end NV.Router
