/-
  NV.Lemmas.Router — on NV.Model.Router, for NV.Props.C20: `aget` of `aset` / `adel`; the shim commands other than
  uci/nvram leave the stores alone (`SameStores`); the nvram loop and the uci commands as functions on a store
  (`setAll`, `addList`, `delList`) and field by field (`uciCommit_*`, `uciDelete_*`, `uciGet_*`); template execution
  (`NV.Tmpl.runToks`, `render`); lines (`linesRev` / `splitLines_eq`, `pcStep` / `readPostConf_after_marker`).
-/
import NV.Model.Router
namespace NV.Router
open NV NV.Tmpl

section alist
variable {β : Type}

@[simp] theorem aget_aset (m : List (Bytes × β)) (k k' : Bytes) (v : β) :
    aget (aset m k v) k' = if k = k' then some v else aget m k' := by
  induction m with
  | nil => rfl
  | cons p r ih =>
    by_cases h' : k = k'
    · subst h'
      by_cases h : p.1 = k <;> simp [aset, aget, h, ih]
    · by_cases h : p.1 = k <;> simp [aset, aget, h, h', ih]

@[simp] theorem aget_adel (m : List (Bytes × β)) (k k' : Bytes) :
    aget (adel m k) k' = if k = k' then none else aget m k' := by
  induction m with
  | nil => simp [adel, aget]
  | cons p r ih =>
    by_cases h' : k = k'
    · subst h'
      by_cases h : p.1 = k <;> simp [adel, aget, h, ih]
    · by_cases h : p.1 = k <;> simp [adel, aget, h, h', ih]

theorem aget_eq_ite_of_none {m : List (Bytes × β)} {k : Bytes} (h : aget m k = none) (k' : Bytes) :
    aget m k' = if k = k' then none else aget m k' := by
  split
  · subst ‹k = k'›; exact h
  · rfl

theorem adel_aset_self (m : List (Bytes × β)) (k : Bytes) (v : β) : adel (aset m k v) k = adel m k := by
  induction m with
  | nil => simp [aset, adel]
  | cons p r ih =>
    obtain ⟨k', v'⟩ := p
    by_cases h : k' = k <;> simp [aset, adel, h, ih]

end alist

theorem restartNow_files (s : Sys) : (restartNow s).files = s.files := rfl
theorem restartNow_view (s : Sys) : (restartNow s).view = some (snapOf (restartNow s)) := rfl

theorem snapOf_congr (a b : Sys) (h1 : a.files = b.files) (h2 : a.uciC = b.uciC) (h3 : a.nvL = b.nvL) : snapOf a = snapOf b := by
  simp [snapOf, h1, h2, h3]

/-- `t` is `s` up to dnsmasq's process state (`view`, `restarts`): what every shim command other than
uci/nvram guarantees -/
structure SameStores (s t : Sys) : Prop where
  files : t.files = s.files
  uciC : t.uciC = s.uciC
  uciS : t.uciS = s.uciS
  nvL : t.nvL = s.nvL
  nvC : t.nvC = s.nvC

theorem SameStores.refl {s : Sys} : SameStores s s := ⟨rfl, rfl, rfl, rfl, rfl⟩

theorem SameStores.trans {s t u : Sys} (h1 : SameStores s t) (h2 : SameStores t u) : SameStores s u :=
  ⟨h2.files.trans h1.files, h2.uciC.trans h1.uciC, h2.uciS.trans h1.uciS, h2.nvL.trans h1.nvL, h2.nvC.trans h1.nvC⟩

theorem execBase_same (argv : List Bytes) (s : Sys) : SameStores s (execBase argv s).2 := by
  unfold execBase
  -- the six `if`s by `iteInduction`, dropping the condition: `split` would leave `¬ argv = [literal]`
  -- in the context at every level, and splitting the final `match` with all of them in scope is slow
  iterate 6 refine iteInduction (motive := fun r : Bool × Sys => SameStores s r.2) (fun _ => ⟨rfl, rfl, rfl, rfl, rfl⟩) fun _ => ?_
  repeat' split
  all_goals exact ⟨rfl, rfl, rfl, rfl, rfl⟩

theorem execCmd_same (argv : List Bytes) (s : Sys) : SameStores s (execCmd argv s).2 := by
  unfold execCmd
  split
  · split <;> exact execBase_same _ _
  · exact .refl

theorem runCmds_same (cs : List (List Bytes)) (s : Sys) : SameStores s (runCmds cs s).2 := by
  induction cs generalizing s with
  | nil => exact .refl
  | cons c cs ih =>
    unfold runCmds
    dsimp only
    split
    · exact (execCmd_same c s).trans (ih _)
    · exact execCmd_same c s

theorem runCmds_files (cs : List (List Bytes)) (s : Sys) : (runCmds cs s).2.files = s.files := (runCmds_same cs s).files
theorem execCmd_files (a : List Bytes) (s : Sys) : (execCmd a s).2.files = s.files := (execCmd_same a s).files

theorem killDNSMasq_same (s : Sys) : SameStores s (killDNSMasq s).2 := by
  unfold killDNSMasq
  cases aget s.files pidPath with
  | none => exact .refl
  | some b => exact execCmd_same [b!"kill", trimSpace b] s

theorem killDNSMasq_preserves (s : Sys) :
    (killDNSMasq s).2.files = s.files ∧ (killDNSMasq s).2.uciC = s.uciC ∧ (killDNSMasq s).2.nvL = s.nvL :=
  ⟨(killDNSMasq_same s).files, (killDNSMasq_same s).uciC, (killDNSMasq_same s).nvL⟩

theorem execCmd_kill (s : Sys) (pid : Bytes) : execCmd [b!"kill", pid] s =
    match aget s.files pidPath with
    | some c => if pid ≠ [] ∧ trimSpace c = pid then (true, restartNow s) else (false, s)
    | none => (false, s) := rfl

theorem killDNSMasq_ok (s : Sys) (h : (killDNSMasq s).1 = true) : (killDNSMasq s).2 = restartNow s := by
  unfold killDNSMasq at h ⊢
  split at h
  · cases h
  · rename_i b hb
    rw [execCmd_kill, hb] at h ⊢
    dsimp only at h ⊢
    split at h
    · rename_i hpid
      rw [if_pos hpid]
    · cases h

theorem writeTemplate_eq (c : FwConsts) (o : Obj) (s : Sys) (b : Bytes) (h : renderFw c o = .ok b) :
    writeTemplate c o s = (true, { s with files := aset s.files o.path b }) := by
  simp [writeTemplate, h]

theorem writeTemplate_ok (c : FwConsts) (o : Obj) (s : Sys) (h : (writeTemplate c o s).1 = true) :
    ∃ b, renderFw c o = .ok b ∧ writeTemplate c o s = (true, { s with files := aset s.files o.path b }) := by
  cases hr : renderFw c o with
  | ok b => exact ⟨b, rfl, writeTemplate_eq c o s b hr⟩
  | _ => simp [writeTemplate, hr] at h

theorem writeTemplate_files (c : FwConsts) (o : Obj) (s : Sys) (p : Bytes) (hp : p ≠ o.path) :
    aget (writeTemplate c o s).2.files p = aget s.files p := by
  unfold writeTemplate
  cases renderFw c o <;> simp [Ne.symm hp]

theorem fileSetup_obj (c : FwConsts) (o : Obj) (s : Sys) : (fileSetup c o s).2.1 = o := by
  unfold fileSetup
  by_cases h : (writeTemplate c o s).1 <;> simp [h]

theorem fileSetup_files (c : FwConsts) (o : Obj) (s : Sys) (p : Bytes) (hp : p ≠ o.path) :
    aget (fileSetup c o s).2.2.files p = aget s.files p := by
  unfold fileSetup
  by_cases h : (writeTemplate c o s).1 <;> simp [h, runCmds_files, writeTemplate_files c o s p hp]

theorem splitEq_append (n x : Bytes) (h : (61 : UInt8) ∉ n) : splitEq (n ++ 61 :: x) = (n, some x) := by
  induction n with
  | nil => simp [splitEq]
  | cons c r ih =>
    have hc : c ≠ 61 := by intro e; apply h; simp [e]
    have hr : (61 : UInt8) ∉ r := by intro e; apply h; simp [e]
    simp [splitEq, hc, ih hr]

/-- the step of `setNVRAMLoop` on `name=value`: `nvram unset` (Broadcom) stores the value as `nvram set` does -/
theorem setVar_step (s : Sys) (n x : Bytes) (h : (61 : UInt8) ∉ n) :
    (if isSuffix [61] (n ++ 61 :: x) then nvUnsetArg s (n ++ 61 :: x) else nvSetArg s (n ++ 61 :: x)) =
      (true, { s with nvL := aset s.nvL n x }) := by
  split <;> simp [nvUnsetArg, nvSetArg, splitEq_append n x h]

/-- `nvram set` of every pair, in order -/
def setAll (ps : List (Bytes × Bytes)) (m : Store) : Store := ps.foldl (fun m p => aset m p.1 p.2) m

theorem setNVRAMLoop_pairs (ps : List (Bytes × Bytes)) (h : ∀ p ∈ ps, (61 : UInt8) ∉ p.1) (s : Sys) :
    setNVRAMLoop (ps.map fun p => p.1 ++ 61 :: p.2) s = (true, nvCommit { s with nvL := setAll ps s.nvL }) := by
  induction ps generalizing s with
  | nil => simp [setNVRAMLoop, setAll]
  | cons p ps ih =>
    have hp := h p (by simp)
    have hps : ∀ q ∈ ps, (61 : UInt8) ∉ q.1 := fun q hq => h q (by simp [hq])
    simp only [List.map_cons, setNVRAMLoop, setVar_step s p.1 p.2 hp]
    simp [ih hps, setAll]

theorem aget_setAll_notin (ps : List (Bytes × Bytes)) (m : Store) (k : Bytes) (h : k ∉ ps.map (·.1)) :
    aget (setAll ps m) k = aget m k :=
  List.foldlRecOn (motive := fun m' => aget m' k = aget m k) ps _ rfl fun m' hm p hp => by
    rw [aget_aset, if_neg fun e : p.1 = k => h (e ▸ List.mem_map_of_mem hp), hm]

theorem aget_setAll_fun (ns : List Bytes) (F : Bytes → Bytes) (m : Store) (k : Bytes) (h : k ∈ ns) :
    aget (setAll (ns.map fun n => (n, F n)) m) k = some (F k) := by
  induction ns generalizing m with
  | nil => simp at h
  | cons n ns ih =>
    simp only [List.map_cons, setAll, List.foldl_cons]
    by_cases hk : k ∈ ns
    · exact ih _ hk
    · have hn : k = n := by simpa [hk] using h
      subst hn
      have := aget_setAll_notin (ns.map fun n => (n, F n)) (aset m k (F k)) k (by simpa using hk)
      simp only [setAll] at this
      rw [this]; simp

/-- `uci add_list K=V` on the staged store -/
def addList (m : UStore) (k v : Bytes) : UStore := aset m k ((aget m k).getD [] ++ [v])

/-- `uci del_list K=V` on the staged store -/
def delList (m : UStore) (k v : Bytes) : UStore :=
  match aget m k with
  | none => m
  | some vs => if (vs.filter (· ≠ v)).isEmpty then adel m k else aset m k (vs.filter (· ≠ v))

theorem uciAddList_eq (s : Sys) (k v : Bytes) : uciAddList s k v = { s with uciS := addList s.uciS k v } := rfl

theorem uciDelList_eq (s : Sys) (k v : Bytes) : uciDelList s k v = { s with uciS := delList s.uciS k v } := by
  unfold uciDelList delList
  cases aget s.uciS k with
  | none => rfl
  | some vs => dsimp only; split <;> rfl

theorem uciCommit_uciC (s : Sys) : (uciCommit s).uciC = s.uciS := rfl
theorem uciCommit_uciS (s : Sys) : (uciCommit s).uciS = s.uciS := rfl

theorem uciAddList_uciC (s : Sys) (k v : Bytes) : (uciAddList s k v).uciC = s.uciC := rfl

theorem uciDelList_uciC (s : Sys) (k v : Bytes) : (uciDelList s k v).uciC = s.uciC := by rw [uciDelList_eq]

theorem uciDelete_uciC (s : Sys) (k : Bytes) : (uciDelete s k).2.uciC = s.uciC := by
  unfold uciDelete; split <;> rfl

theorem uciDelete_uciS_some (s : Sys) (k : Bytes) (vs : List Bytes) (h : aget s.uciS k = some vs) :
    (uciDelete s k).2.uciS = adel s.uciS k := by
  simp [uciDelete, h]

theorem aget_uciDelete (s : Sys) (k k' : Bytes) :
    aget (uciDelete s k).2.uciS k' = if k = k' then none else aget s.uciS k' := by
  unfold uciDelete
  split
  · exact aget_eq_ite_of_none ‹_› k'
  · exact aget_adel ..

theorem uciGet_eq_some {s : Sys} {k v : Bytes} :
    uciGet s k = some v ↔ ∃ vs, aget s.uciS k = some vs ∧ trimSpace (joinSp vs) = v := Option.map_eq_some_iff

theorem uciGet_congr {a b : Sys} {k : Bytes} (h : aget a.uciS k = aget b.uciS k) : uciGet a k = uciGet b k := by
  unfold uciGet; rw [h]

theorem uciGet_files (s : Sys) (f : Store) (k : Bytes) : uciGet { s with files := f } k = uciGet s k := rfl

theorem renderFw_savedFwd (c : FwConsts) (o : Obj) (f : Bytes) : renderFw c { o with savedFwd := f } = renderFw c o := rfl

theorem owRestoreFwd_eq (fs : List Bytes) (s : Sys) :
    owRestoreFwd fs s = { s with uciS := fs.foldl (addList · kServer) s.uciS } := by
  induction fs generalizing s with
  | nil => rfl
  | cons f fs ih => rw [owRestoreFwd, ih, uciAddList_eq]; rfl

theorem aget_addList (m : UStore) (k v k' : Bytes) :
    aget (addList m k v) k' = if k = k' then some ((aget m k).getD [] ++ [v]) else aget m k' := aget_aset ..

theorem aget_delList (m : UStore) (k v k' : Bytes) :
    aget (delList m k v) k' =
      if k = k' then
        match aget m k with
        | none => none
        | some vs => if (vs.filter (· ≠ v)).isEmpty then none else some (vs.filter (· ≠ v))
      else aget m k' := by
  unfold delList
  cases h : aget m k with
  | none => exact aget_eq_ite_of_none h k'
  | some vs => dsimp only; split <;> simp

theorem aget_delList_congr {m m' : UStore} (h : ∀ k, aget m k = aget m' k) (k v k' : Bytes) :
    aget (delList m k v) k' = aget (delList m' k v) k' := by
  rw [aget_delList, aget_delList, h, h]

theorem aget_delList_addList (m : UStore) (k v k' : Bytes) :
    aget (delList (addList m k v) k v) k' = aget (delList m k v) k' := by
  rw [aget_delList, aget_delList, aget_addList, aget_addList, if_pos rfl]
  by_cases hk : k = k'
  · simp only [if_pos hk]
    cases aget m k <;> simp [List.filter_append]
  · simp only [if_neg hk]

theorem aget_delList_of_not_mem {m : UStore} {k v : Bytes} (k' : Bytes) (h : ∀ vs, aget m k = some vs → vs ≠ [] ∧ v ∉ vs) :
    aget (delList m k v) k' = aget m k' := by
  rw [aget_delList]
  split
  · subst ‹k = k'›
    cases hd : aget m k with
    | none => rfl
    | some vs =>
      have : vs.filter (· ≠ v) = vs :=
        List.filter_eq_self.2 fun a ha => by simpa using fun (e : a = v) => (h vs hd).2 (e ▸ ha)
      dsimp only
      rw [this]
      simp [(h vs hd).1]
  · rfl

theorem aget_foldl_addList (fs : List Bytes) (m : UStore) (k k' : Bytes) :
    aget (fs.foldl (addList · k) m) k' =
      if k = k' ∧ fs ≠ [] then some ((aget m k).getD [] ++ fs) else aget m k' := by
  induction fs generalizing m with
  | nil => simp
  | cons f fs ih =>
    rw [List.foldl_cons, ih]
    by_cases hk : k = k'
    · subst hk; cases fs <;> simp [aget_addList]
    · simp [hk, aget_addList]

theorem runToks_append (env : Env) (a b : List Tok) (st : XS) :
    runToks env (a ++ b) st = (runToks env a st).bind (runToks env b) := by
  induction a generalizing st with
  | nil => simp [runToks]
  | cons t ts ih =>
    simp only [List.cons_append, runToks]
    cases stepTok env st t <;> simp [ih]

/-- a run that ends with a text token, outside any skipped branch, ends with that text -/
theorem runToks_text_last (env : Env) (pre : List Tok) (d : Bytes) (st : XS) (fs : List Frame) (out : Bytes)
    (h : runToks env (pre ++ [.text d]) st = some (fs, out)) (ha : active fs = true) : d <:+ out := by
  rw [runToks_append] at h
  cases h1 : runToks env pre st with
  | none => rw [h1] at h; cases h
  | some m =>
    rw [h1] at h
    obtain ⟨rfl, rfl⟩ : m.1 = fs ∧ (if active m.1 then m.2 ++ d else m.2) = out := Prod.mk.inj (Option.some.inj h)
    rw [if_pos ha]
    exact ⟨m.2, rfl⟩

/-- the field a token reads -/
def tokField : Tok → Option Bytes
  | .field n => some n
  | .ifF n => some n
  | _ => none

theorem stepTok_congr (e1 e2 : Env) (st : XS) (t : Tok) (h : ∀ n, tokField t = some n → e1 n = e2 n) :
    stepTok e1 st t = stepTok e2 st t := by
  cases t <;> simp [stepTok, tokField] at h ⊢ <;> simp [h]

theorem runToks_congr (e1 e2 : Env) (ts : List Tok) (st : XS)
    (h : ∀ t ∈ ts, ∀ n, tokField t = some n → e1 n = e2 n) : runToks e1 ts st = runToks e2 ts st := by
  induction ts generalizing st with
  | nil => rfl
  | cons t ts ih =>
    simp only [runToks]
    rw [stepTok_congr e1 e2 st t (h t (by simp))]
    cases stepTok e2 st t with
    | none => rfl
    | some st' => exact ih st' (fun t' ht' => h t' (by simp [ht']))

/-- what a run printed (`[]` for a failed run) -/
def outOf : Option XS → Bytes
  | some (_, out) => out
  | none => []

theorem eq_some_outOf {x : Option XS} {fs : List Frame} (h : x.map (·.1) = some fs) : x = some (fs, outOf x) := by
  match x, h with
  | some (_, _), h => cases h; rfl

theorem render_pre_field (t : Bytes) (pre : List Tok) (f : Bytes) (env : Env) (out : Bytes) (v : Val)
    (hlex : lex t = some (pre ++ [.field f])) (hbad : (pre ++ [Tok.field f]).any (· = .bad) = false)
    (hbal : balanced (pre ++ [.field f]) [] = true)
    (hrun : runToks env pre ([], []) = some ([], out)) (hf : env f = some v) :
    render t env = .ok (out ++ printVal v) := by
  unfold render
  rw [hlex]
  simp only [execToks, hbad, hbal]
  rw [runToks_append, hrun]
  simp [runToks, stepTok, active, hf]

/-- `splitLinesAux` with the current line kept reversed: linear where the model's `cur ++ [c]` is
quadratic in the length of a line, which is felt when the kernel cuts whole installed texts into lines
(`NV.C20.forwards_to_listen`; merlin's script is by far the longest) -/
def linesRev : Bytes → Bytes → List Bytes
  | [], rc => if rc.isEmpty then [] else [dropCR rc.reverse]
  | c :: r, rc => if c = 10 then dropCR rc.reverse :: linesRev r [] else linesRev r (c :: rc)

theorem splitLinesAux_eq (b cur : Bytes) : splitLinesAux b cur = linesRev b cur.reverse := by
  induction b generalizing cur with
  | nil => simp [splitLinesAux, linesRev]
  | cons c r ih => simp [splitLinesAux, linesRev, ih]

theorem splitLines_eq (b : Bytes) : splitLines b = linesRev b [] := splitLinesAux_eq b []

theorem splitLinesAux_append (h p cur : Bytes) :
    splitLinesAux (h ++ 10 :: p) cur = splitLinesAux (h ++ [10]) cur ++ splitLinesAux p [] := by
  induction h generalizing cur with
  | nil => simp [splitLinesAux]
  | cons c r ih =>
    by_cases hc : c = 10 <;> simp [splitLinesAux, hc, ih]

/-- one line of `readPostConf`'s scan: the marker line empties the buffer -/
def pcStep (buf line : Bytes) : Bytes := if line = endMarker then [] else buf ++ line ++ [10]

theorem readPostConf_eq (b : Bytes) : readPostConf b = dropNL ((splitLines b).foldl pcStep []) := rfl

theorem readPostConf_after_marker (h p : Bytes) (hs : (10 :: endMarker ++ [10]).isSuffixOf h = true) :
    readPostConf (h ++ p) = readPostConf p := by
  -- the lines are those of `pre`, then the marker, then those of `p`, and the fold starts afresh at the marker
  obtain ⟨pre, rfl⟩ := List.isSuffixOf_iff_suffix.mp hs
  have e : pre ++ (10 :: endMarker ++ [10]) ++ p = pre ++ 10 :: (endMarker ++ 10 :: p) := by simp
  simp only [readPostConf_eq, splitLines, e]
  rw [splitLinesAux_append pre, splitLinesAux_append endMarker p, show splitLinesAux (endMarker ++ [10]) [] = [endMarker] by decide,
    List.foldl_append, List.foldl_append]
  simp [pcStep]

end NV.Router
