/-
  NV.Lemmas.SvcLife — shared by C16 and C20: the hook rounds of a whole run of the daemon under its run loop.
-/
import NV.Model.SvcLife
namespace NV.SvcLife
open NV.SvcStart

theorem run_induct {P : St → Prop} (hstep : ∀ s s' o r, P s → step s o = some (s', r) → P s') :
    ∀ (ops : List Op) (s0 s : St), P s0 → run s0 ops = some s → P s
  | [], _, _, h0, hr => by cases hr; exact h0
  | o :: os, s0, s, h0, hr => by
    simp only [run] at hr
    split at hr
    · cases hr
    · next s' r hs => exact run_induct hstep os s' s (hstep s0 s' o r h0 hs) hr

/-- see `C16.service_run_log` -/
theorem service_run_log' (fg : Bool) (as : List Att) (sigs : List Sig) :
    ∃ s, run init (runLoopOps fg as sigs) = some s ∧
      s.log = (if svcStart as = .started then
                 (if sigs.any (stopsOn fg) = true then [.up, .down] else [.up]) else []) ∧
      (s.serving = true ↔ (svcStart as = .started ∧ sigs.any (stopsOn fg) = false)) := by
  simp only [runLoopOps, run, step, init]
  cases svcStart as with
  | started =>
    cases sigs.any (stopsOn fg) with
    | true => exact ⟨_, rfl, rfl, by simp⟩
    | false => exact ⟨_, rfl, rfl, by simp⟩
  | error => exact ⟨_, rfl, rfl, by simp⟩
  | waiting => exact ⟨_, rfl, rfl, by simp⟩

end NV.SvcLife
