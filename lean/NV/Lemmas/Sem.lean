/-
  NV.Lemmas.Sem — for the semaphore system (NV.Model.Sem): a thread's state stays acceptable (`stOk`) along the paths
  of a certified CFG, and `Inv` is kept by each of the three things a `Step` does to the thread list (replace an entry,
  remove one, append one).
-/
import NV.Model.Sem
import NV.Lemmas.ListSet
namespace NV.Sem
open NV.CFG

/-- a state is acceptable: non-negative, and (strict programs) balanced once a deferred release is installed -/
def stOk (strict : Bool) (s : St) : Prop := 0 ≤ s.1 ∧ (strict = true → s.2 = 0 ∨ s.1 = s.2)

theorem okAfter_stOk (strict : Bool) (e : Ev) (s : St) (h : e.okAfter strict s = true) :
    stOk strict (e.apply s) :=
  have ⟨hnn, _, hbal⟩ := Ev.okAfter_iff.mp h
  ⟨hnn, hbal⟩

theorem runEvs_append (a b : List Ev) (s : St) : runEvs (a ++ b) s = runEvs b (runEvs a s) := by
  simp [runEvs, List.foldl_append]

theorem stOk_of_evsOk_prefix (strict : Bool) (pre post : List Ev) (s : St) (hs : stOk strict s)
    (h : evsOk strict (pre ++ post) s = true) : stOk strict (runEvs pre s) := by
  rcases List.eq_nil_or_concat pre with rfl | ⟨pre', e, rfl⟩
  · exact hs
  · -- after a non-empty prefix: the state right after its last event, which `evsOk` tested
    rw [List.concat_eq_append, List.append_assoc] at h
    rw [List.concat_eq_append, runEvs_append]
    exact okAfter_stOk strict e _ (evsOk_prefix strict pre' e post s h)

theorem reach_stOk (strict : Bool) (p : Prog) (cert : Cert) (init : St)
    (h : check strict p cert init = true) (hinit : stOk strict init) :
    ∀ i s, Reach p init i s → stOk strict s := by
  intro i s hr
  induction hr with
  | entry => exact hinit
  | @step i j s b hr' hb _ ih =>
    exact stOk_of_evsOk_prefix strict b.evs [] s ih (by simpa using (Local.of_check h).block_evsOk hr' hb)

theorem stOk_at_point (strict : Bool) (p : Prog) (cert : Cert) (init : St)
    (h : check strict p cert init = true) (hinit : stOk strict init) (i : Nat) (s : St) (b : Block)
    (hr : Reach p init i s) (hb : p[i]? = some b) (pre post : List Ev) (hsplit : b.evs = pre ++ post) :
    stOk strict (runEvs pre s) := by
  have he := (Local.of_check h).block_evsOk hr hb
  rw [hsplit] at he
  exact stOk_of_evsOk_prefix strict pre post s (reach_stOk strict p cert init h hinit i s hr) he

theorem startThread_some {tab : Table} {pid : Nat} {c : Thread} (h : startThread tab pid = some c) :
    ∃ pi b, tab[pid]? = some pi ∧ pi.prog[0]? = some b ∧
      c = { pid := pid, blk := 0, done := [], rest := b.evs, s0 := pi.init, st := pi.init } := by
  unfold startThread at h
  split at h
  · cases h
  · next pi hpi =>
    split at h
    · cases h
    · next b hb => exact ⟨pi, b, hpi, hb, (Option.some.inj h).symm⟩

theorem threadOK_start {tab : Table} {pid : Nat} {c : Thread} (h : startThread tab pid = some c) :
    ThreadOK tab c := by
  obtain ⟨pi, b, hpi, hb, rfl⟩ := startThread_some h
  exact ⟨pi, b, hpi, Reach.entry, hb, rfl, rfl⟩

/-- `ThreadOK`, read at the table entry and block a step names -/
theorem threadOK_at {tab : Table} {t : Thread} {pi : PInfo} (h : ThreadOK tab t) (hpi : tab[t.pid]? = some pi) :
    ∃ b, Reach pi.prog pi.init t.blk t.s0 ∧ pi.prog[t.blk]? = some b ∧ b.evs = t.done ++ t.rest ∧
      t.st = runEvs t.done t.s0 := by
  obtain ⟨pi', b, hpi', rest⟩ := h
  cases hpi.symm.trans hpi'
  exact ⟨b, rest⟩

/-- at the end of its block `b` a thread has run all of `b` -/
theorem threadOK_at_end {tab : Table} {t : Thread} {pi : PInfo} {b : Block} (h : ThreadOK tab t)
    (hpi : tab[t.pid]? = some pi) (hb : pi.prog[t.blk]? = some b) (hrest : t.rest = []) :
    Reach pi.prog pi.init t.blk t.s0 ∧ t.st = runEvs b.evs t.s0 := by
  obtain ⟨b', hr, hb', hsplit, hst⟩ := threadOK_at h hpi
  cases hb.symm.trans hb'
  exact ⟨hr, by rw [hst, hsplit, hrest, List.append_nil]⟩

theorem threadOK_advance {tab : Table} {t : Thread} {e : Ev} {r : List Ev} (h : ThreadOK tab t)
    (hrest : t.rest = e :: r) :
    ThreadOK tab { t with done := t.done ++ [e], rest := r, st := e.apply t.st } := by
  obtain ⟨pi, b, hpi, hr, hb, hsplit, hst⟩ := h
  exact ⟨pi, b, hpi, hr, hb, by simp [hsplit, hrest], by simp only; rw [runEvs_append, hst]; rfl⟩

theorem threadOK_stOk {tab : Table} (htab : TableOK tab) {t : Thread} {pi : PInfo} (h : ThreadOK tab t)
    (hpi : tab[t.pid]? = some pi) : stOk pi.strict t.st := by
  obtain ⟨b, hr, hb, hsplit, hst⟩ := threadOK_at h hpi
  obtain ⟨hc, h0, hd, _⟩ := htab pi (List.mem_of_getElem? hpi)
  have hinit : stOk pi.strict pi.init := ⟨h0, fun _ => .inl hd⟩
  exact hst ▸ stOk_at_point pi.strict pi.prog pi.cert pi.init hc hinit t.blk t.s0 b hr hb t.done t.rest hsplit

theorem tableOkB_sound (tab : Table) (h : tableOkB tab = true) : TableOK tab := by
  intro pi hpi
  have hpi := List.all_eq_true.mp h pi hpi
  simp only [Bool.and_eq_true, Bool.or_eq_true, decide_eq_true_eq, Bool.not_eq_true'] at hpi
  obtain ⟨⟨⟨hcheck, hheld⟩, hdef⟩, hchild⟩ := hpi
  refine ⟨hcheck, hheld, hdef, fun pc hpc => hchild.imp (fun hc => ?_) fun hns ⟨b, hb, hs⟩ => ?_⟩
  · simpa [hpc] using hc
  · have : (pi.prog.any fun b => b.evs.contains .spawn) = true :=
      List.any_eq_true.mpr ⟨b, hb, by simpa using hs⟩
    exact Bool.false_ne_true (hns.symm.trans this)

/-- in a program none of whose events moves a unit, a thread holds at every point what it was entered with -/
theorem quiet_holds {tab : Table} {t : Thread} {pi : PInfo} (hok : ThreadOK tab t) (hpi : tab[t.pid]? = some pi)
    (hq : ∀ b ∈ pi.prog, ∀ e ∈ b.evs, e = Ev.deferRel ∨ e = .need ∨ e = .nop) : t.st.1 = pi.init.1 := by
  obtain ⟨b, hr, hb, hsplit, hst⟩ := threadOK_at hok hpi
  have keep : ∀ b ∈ pi.prog, ∀ e ∈ b.evs, ∀ s : St, s.1 = pi.init.1 → (e.apply s).1 = pi.init.1 := by
    intro b hb e he s hs
    rcases hq b hb e he with rfl | rfl | rfl <;> exact hs
  exact hst ▸ point_inv keep rfl hr hb hsplit

theorem heldSum_append (a b : List Thread) : heldSum (a ++ b) = heldSum a + heldSum b := by
  induction a with
  | nil => simp [heldSum]
  | cons t ts ih => simp [heldSum, ih]; omega

theorem heldSum_eq_zero {ts : List Thread} (h : ∀ t ∈ ts, t.st.1 = 0) : heldSum ts = 0 := by
  induction ts with
  | nil => rfl
  | cons t ts ih =>
    rw [heldSum, h t List.mem_cons_self, ih fun x hx => h x (List.mem_cons_of_mem _ hx)]; rfl

theorem heldSum_split {ts : List Thread} {i : Nat} {t : Thread} (h : ts[i]? = some t) :
    heldSum ts = heldSum (ts.take i) + (t.st.1 + heldSum (ts.drop (i + 1))) := by
  obtain ⟨hi, rfl⟩ := List.getElem?_eq_some_iff.mp h
  show _ = _ + heldSum (ts[i] :: ts.drop (i + 1))
  rw [List.getElem_cons_drop, ← heldSum_append, List.take_append_drop]

theorem heldSum_set (ts : List Thread) (i : Nat) (t t' : Thread) (h : ts[i]? = some t) :
    heldSum (ts.set i t') = heldSum ts - t.st.1 + t'.st.1 := by
  rw [List.set_eq_take_append_cons_drop, if_pos (List.getElem?_eq_some_iff.mp h).1, heldSum_append, heldSum,
    heldSum_split h]
  omega

theorem heldSum_eraseIdx (ts : List Thread) (i : Nat) (t : Thread) (h : ts[i]? = some t) :
    heldSum (ts.eraseIdx i) = heldSum ts - t.st.1 := by
  rw [List.eraseIdx_eq_take_drop_succ, heldSum_append, heldSum_split h]
  omega

open NV.ListSet in
theorem inv_set {tab : Table} {K : Int} {s : Sys} {i : Nat} {t t' : Thread} {free' : Int} (h : Inv tab K s)
    (hget : s.threads[i]? = some t) (hok : ThreadOK tab t') (hbooks : free' + t'.st.1 = s.free + t.st.1)
    (hnn : 0 ≤ free') : Inv tab K ⟨free', s.threads.set i t'⟩ := by
  obtain ⟨hsum, _, hthreads⟩ := h
  have hset := heldSum_set s.threads i t t' hget
  exact ⟨by simp only []; omega, hnn, forall_mem_set hthreads hok i⟩

/-- `hbooks` and `hnn` of `inv_set` at a `Step.ev`: an event other than `spawn` moves units between the semaphore
and the thread, and `acq` waits for a free unit -/
theorem ev_books (e : Ev) (hns : e ≠ .spawn) (free : Int) (s : St) (hfree : 0 ≤ free) (hacq : e = .acq → 1 ≤ free) :
    free - (if e = .acq then 1 else 0) + (if e = .rel then 1 else 0) + (e.apply s).1 = free + s.1 ∧
    0 ≤ free - (if e = .acq then 1 else 0) + (if e = .rel then 1 else 0) := by
  obtain ⟨h, d⟩ := s
  cases e with
  | spawn => exact absurd rfl hns
  | acq => have := hacq rfl; simp only [Ev.apply, reduceCtorEq, ↓reduceIte]; omega
  | rel | deferRel | need | nop => simp only [Ev.apply, reduceCtorEq, ↓reduceIte]; omega

/-- `Step.exit` and `Step.panic` add `t.st.2`: their caller first shows `t.st.1 = t.st.2` -/
theorem inv_erase {tab : Table} {K : Int} {s : Sys} {i : Nat} {t : Thread} (h : Inv tab K s)
    (hget : s.threads[i]? = some t) (hheld : 0 ≤ t.st.1) :
    Inv tab K ⟨s.free + t.st.1, s.threads.eraseIdx i⟩ := by
  obtain ⟨hsum, hfree, hthreads⟩ := h
  have hers := heldSum_eraseIdx s.threads i t hget
  exact ⟨by simp only []; omega, by simp only []; omega, fun x hx => hthreads x (List.mem_of_mem_eraseIdx hx)⟩

/-- the new thread `c` takes what it holds from the semaphore -/
theorem inv_push {tab : Table} {K free : Int} {ts : List Thread} {c : Thread}
    (h : Inv tab K ⟨free + c.st.1, ts⟩) (hok : ThreadOK tab c) (hnn : 0 ≤ free) : Inv tab K ⟨free, ts ++ [c]⟩ := by
  obtain ⟨hsum, _, hthreads⟩ := h
  exact ⟨by simp only [heldSum_append, heldSum] at hsum ⊢; omega, hnn,
    List.forall_mem_append.mpr ⟨hthreads, List.forall_mem_singleton.mpr hok⟩⟩

end NV.Sem
