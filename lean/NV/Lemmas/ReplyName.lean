/-
  NV.Lemmas.ReplyName — the name a locally built reply carries: `packName` of the text form dnsmessage
  shows for a label list is the wire encoding of that list, when no label contains a dot.
-/
import NV.Lemmas.Query
import NV.Model.Reply
namespace NV
open NV.Spec

theorem packLabels_label (l : Bytes) (hd : (46 : UInt8) ∉ l) : ∀ (seg rest : Bytes),
    packLabels (l ++ 46 :: rest) seg =
      (if (seg ++ l).length ≥ 64 then none
       else if (seg ++ l).length = 0 then none
       else (packLabels rest []).map fun tail => (UInt8.ofNat (seg ++ l).length :: (seg ++ l)) ++ tail) := by
  induction l with
  | nil => intro seg rest; simp [packLabels]
  | cons c l ih =>
    intro seg rest
    have hc : c ≠ 46 := by intro h; apply hd; simp [h]
    have hl : (46 : UInt8) ∉ l := by intro h; apply hd; simp [h]
    simp only [List.cons_append, packLabels, hc, if_false]
    rw [ih hl (seg ++ [c]) rest]
    simp

theorem packLabels_dotted (ls : List Bytes) (hl : ∀ l ∈ ls, 1 ≤ l.length ∧ l.length ≤ 63)
    (hd : ∀ l ∈ ls, (46 : UInt8) ∉ l) : packLabels (dotted ls) [] = some (encLabels ls) := by
  induction ls with
  | nil => simp [dotted, packLabels, encLabels]
  | cons l ls ih =>
    have h1 := hl l (by simp)
    simp only [dotted]
    rw [packLabels_label l (hd l (by simp)) [] (dotted ls)]
    rw [ih (fun x hx => hl x (by simp [hx])) (fun x hx => hd x (by simp [hx]))]
    simp only [List.nil_append]
    rw [if_neg (by omega), if_neg (by omega)]
    simp [encLabels, b8, Nat.mod_eq_of_lt (show l.length < 256 by omega)]

theorem dotted_getLast : ∀ (ls : List Bytes), ls ≠ [] → (dotted ls).getLast? = some 46
  | [], h => absurd rfl h
  | [l], _ => by simp [dotted, List.getLast?_append]
  | l :: m :: ms, _ => by
    -- the last byte of `l ++ 46 :: dotted (m :: ms)` is the last of `dotted (m :: ms)`
    rw [dotted, List.getLast?_append, List.getLast?_cons, dotted_getLast (m :: ms) (List.cons_ne_nil _ _)]
    rfl

theorem packName_shown (ls : List Bytes) (h : LabelsOK ls) (hd : ∀ l ∈ ls, (46 : UInt8) ∉ l) :
    packName (shown ls) = some (encLabels ls) := by
  unfold shown
  cases ls with
  | nil => simp [packName, encLabels]
  | cons l ls =>
    have h1 := h.1 l (by simp)
    have hlen := h.2
    have hne : dotted (l :: ls) ≠ [46] := by
      cases l with
      | nil => simp at h1
      | cons c l' =>
        have hc : c ≠ 46 := by intro hc; exact hd (c :: l') (by simp) (by simp [hc])
        simp [dotted, hc]
    have hlast := dotted_getLast (l :: ls) (by simp)
    have hpos : (dotted (l :: ls)).length ≠ 0 := by simp [dotted]
    unfold packName
    simp only [List.cons_ne_nil, if_false]
    rw [if_neg (by omega), if_neg (by simp [hlast]), if_neg hne]
    exact packLabels_dotted (l :: ls) h.1 hd

end NV
