/-
  NV.Lemmas.Activate — what NV.Props.C19 needs of the models of net.SplitHostPort, net.ParseIP and `listenIP`: a host
  and a port joined by ':' split back into themselves (`splitHostPort_join`); a text ParseIP accepts is not empty and
  consists of hex digits, ':' and '.' (`parseIP_chars`); `listenIP` by what SplitHostPort returns (a port other than
  53 / "domain" is `C19.non53_never_activates`).
-/
import NV.Model.Activate
namespace NV.Activate

theorem lastIndexOf_go_none (c : Char) (s : S) (i : Nat) (best : Option Nat) (h : ∀ x ∈ s, x ≠ c) :
    lastIndexOf.go c i best s = best := by
  fun_induction lastIndexOf.go c i best s with
  | case1 => rfl
  | case2 i best x xs ih =>
    rw [List.forall_mem_cons] at h
    rw [ih h.2, if_neg (by simpa using h.1)]

theorem lastIndexOf_go_append (c : Char) (a b : S) (i : Nat) (best : Option Nat) (hb : ∀ x ∈ b, x ≠ c) :
    lastIndexOf.go c i best (a ++ c :: b) = some (i + a.length) := by
  induction a generalizing i best with
  | nil =>
    rw [List.nil_append, lastIndexOf.go, lastIndexOf_go_none c b _ _ hb, if_pos (beq_self_eq_true c)]; rfl
  | cons x xs ih =>
    rw [List.cons_append, lastIndexOf.go, ih, List.length_cons, Nat.add_assoc, Nat.add_comm 1]

theorem lastIndexOf_append (c : Char) (a b : S) (hb : ∀ x ∈ b, x ≠ c) :
    lastIndexOf c (a ++ c :: b) = some a.length := by
  simpa [lastIndexOf] using lastIndexOf_go_append c a b 0 none hb

theorem splitHostPort_join (h p : S) (hh : ∀ x ∈ h, x ≠ ':' ∧ x ≠ '[' ∧ x ≠ ']')
    (hp : ∀ x ∈ p, x ≠ ':' ∧ x ≠ '[' ∧ x ≠ ']') : splitHostPort (h ++ ':' :: p) = some (h, p) := by
  have hl := lastIndexOf_append ':' h p (fun x hx => (hp x hx).1)
  have hhead : ((h ++ ':' :: p).head? == some '[') = false := by
    cases h with
    | nil => simp
    | cons x xs => simpa using (hh x (by simp)).2.1
  -- the three `contains` tests of the branch without brackets
  have hcolon : ':' ∉ h := fun hm => (hh _ hm).1 rfl
  have hopen : '[' ∉ h ∧ '[' ∉ p := ⟨fun hm => (hh _ hm).2.1 rfl, fun hm => (hp _ hm).2.1 rfl⟩
  have hclose : ']' ∉ h ∧ ']' ∉ p := ⟨fun hm => (hh _ hm).2.2 rfl, fun hm => (hp _ hm).2.2 rfl⟩
  simp only [splitHostPort, hl, hhead]
  simp [hcolon, hopen, hclose]

def ipChar (c : Char) : Bool := isHex c || c == ':' || c == '.'

theorem ipChar_printable (c : Char) (h : ipChar c = true) : 33 ≤ c.toNat ∧ c.toNat ≤ 126 := by
  simp only [ipChar, isHex, isDigit, Bool.or_eq_true, Bool.and_eq_true, decide_eq_true_eq, beq_iff_eq] at h
  rcases h with (((h | h) | h) | rfl) | rfl
  · omega
  · omega
  · omega
  · decide
  · decide

theorem splitOn_go_chars (c : Char) (P : Char → Prop) (hc : P c) (s cur : S)
    (h : ∀ p ∈ splitOn.go c cur s, ∀ x ∈ p, P x) : (∀ x ∈ cur, P x) ∧ ∀ x ∈ s, P x := by
  fun_induction splitOn.go c cur s with
  | case1 cur => exact ⟨fun x hx => h cur.reverse (by simp) x (by simpa using hx), by simp⟩
  | case2 cur y ys hy ih =>
    rw [List.forall_mem_cons] at h
    exact ⟨fun x hx => h.1 x (by simpa using hx),
      List.forall_mem_cons.2 ⟨beq_iff_eq.1 hy ▸ hc, (ih h.2).2⟩⟩
  | case3 cur y ys hy ih =>
    have ⟨h1, h2⟩ := ih h
    rw [List.forall_mem_cons] at h1
    exact ⟨h1.2, List.forall_mem_cons.2 ⟨h1.1, h2⟩⟩

theorem splitOn_chars (c : Char) (P : Char → Prop) (hc : P c) (s : S)
    (h : ∀ p ∈ splitOn c s, ∀ x ∈ p, P x) : ∀ x ∈ s, P x :=
  (splitOn_go_chars c P hc s [] h).2

theorem isIPv4_chars (s : S) (h : isIPv4 s = true) : ∀ x ∈ s, ipChar x = true := by
  simp only [isIPv4, v4Field, Bool.and_eq_true, List.all_eq_true] at h
  refine splitOn_chars '.' (ipChar · = true) rfl s fun p hp x hx => ?_
  obtain ⟨⟨⟨_, hdigit⟩, _⟩, _⟩ := h.2 p hp
  simp [ipChar, isHex, hdigit x hx]

theorem v6Group_chars (g : S) (h : v6Group g = true) : ∀ x ∈ g, ipChar x = true := by
  simp only [v6Group, Bool.and_eq_true, List.all_eq_true] at h
  exact fun x hx => by simp [ipChar, h.2 x hx]

theorem v6Groups_chars (parts : List S) (n : Nat) (h : v6Groups parts = some n) :
    ∀ p ∈ parts, ∀ x ∈ p, ipChar x = true := by
  intro p hp
  rw [← List.mem_reverse] at hp
  revert h
  -- case1: no part; 2, 3: the last part is dotted and the test `hc` holds, fails; 4, 5: likewise undotted
  fun_cases v6Groups parts with
  | case1 he => rw [he] at hp; cases hp
  | case3 | case5 => exact fun h => nomatch h
  | case2 last rest he _ hc =>
    rw [he] at hp
    simp only [Bool.and_eq_true, List.all_eq_true] at hc
    rcases List.mem_cons.1 hp with rfl | hm
    · exact fun _ => isIPv4_chars _ hc.1
    · exact fun _ => v6Group_chars _ (hc.2 p hm)
  | case4 last rest he _ hc =>
    rw [he] at hp
    exact fun _ => v6Group_chars _ (List.all_eq_true.1 hc p hp)

theorem v6Side_chars (s : S) (n : Nat) : v6Side s = some n → ∀ x ∈ s, ipChar x = true := by
  fun_cases v6Side s with
  | case1 he => rw [List.isEmpty_iff.1 he]; exact fun _ _ hx => nomatch hx
  | case2 => exact fun h => splitOn_chars ':' (ipChar · = true) rfl s (v6Groups_chars _ n h)

theorem findDouble_split (s : S) (k i : Nat) (h : findDouble s k = some i) :
    ∃ j, i = k + j ∧ s = s.take j ++ ':' :: ':' :: s.drop (j + 2) := by
  fun_induction findDouble s k with
  | case1 | case2 => cases h
  | case3 x y rest k hc =>
    simp only [Bool.and_eq_true, beq_iff_eq] at hc
    exact ⟨0, by cases h; rfl, by rw [hc.1, hc.2]; rfl⟩
  | case4 x y rest k hc ih =>
    obtain ⟨j, hj, hs⟩ := ih h
    exact ⟨j + 1, by rw [hj, Nat.add_assoc, Nat.add_comm 1],
      by rw [List.take_succ_cons, List.drop_succ_cons, List.cons_append, ← hs]⟩

theorem isIPv6_chars (s : S) : isIPv6 s = true → ∀ x ∈ s, ipChar x = true := by
  fun_cases isIPv6 s with
  | case1 | case3 | case4 | case5 | case7 => exact fun h => nomatch h  -- the branches that answer `false`
  -- case2: no "::", eight groups (`hg`); case6: "::" at `i` (`hd`), sides of `a` and `b` groups (`ha`, `hb`)
  | case2 _ _ hg => exact fun _ => splitOn_chars ':' (ipChar · = true) rfl s (v6Groups_chars _ 8 hg)
  | case6 _ i hd _ _ _ _ a b hb ha =>
    obtain ⟨j, hj, hs⟩ := findDouble_split s 0 i hd
    rw [Nat.zero_add] at hj; subst hj
    intro _
    rw [hs]
    simp only [List.forall_mem_append, List.forall_mem_cons]
    exact ⟨v6Side_chars _ a ha, rfl, rfl, v6Side_chars _ b hb⟩

theorem parseIP_chars (s : S) (h : parseIP s = true) : s ≠ [] ∧ ∀ x ∈ s, ipChar x = true :=
  ⟨by rintro rfl; revert h; decide, ((Bool.or_eq_true _ _).mp h).elim (isIPv4_chars s) (isIPv6_chars s)⟩

theorem listenIP_of_split_none (lookup : S → List S) {listen : S} (hs : splitHostPort listen = none) :
    listenIP lookup listen = .addr loopback4 := by
  rw [listenIP, hs]

theorem listenIP_split (lookup : S → List S) {listen host port : S} (hs : splitHostPort listen = some (host, port))
    (hp : port = port53 ∨ port = portDomain) :
    listenIP lookup listen =
      if host = [] ∨ host = wild4 then .addr loopback4
      else if host = wild6 then .addr loopback6
      else if parseIP host then .addr host
      else match lookup host with
        | [] => .errNoAddr
        | a :: _ => .addr a := by
  simp only [listenIP, hs, if_neg fun h : port ≠ port53 ∧ port ≠ portDomain => hp.elim h.1 h.2]
  rfl

end NV.Activate
