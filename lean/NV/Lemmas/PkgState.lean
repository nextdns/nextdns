import NV.Gen.PkgState
namespace NV.Gen.PkgState

/-- no package-level variable of the query-path packages is written after initialisation, the
root-certificate pool apart (one sweep of the regenerated table, shared by C03, C06, C08, C10); a row is
(package, variable, writes after initialisation) -/
theorem only_rootCA_written :
    (table.all fun r =>
      r.2.2.isEmpty || (r.1 == "resolver/endpoint" && (r.2.1 == "rootCAInit" || r.2.1 == "rootCAs"))) = true := by
  decide +kernel

end NV.Gen.PkgState
