/-
  NV.Lemmas.ParserChecked — each checked twin of NV.Model.ParserChecked equals `some` of the total
  model.  One idea throughout: a checked access is `some` of the total access as soon as its index
  is in range (`byteAt?_eq_some`, `sliceTo?_eq_some`, `sliceFrom?_eq_some`), and the guards tested on
  the way to an access put its index in range.
-/
import NV.Model.ParserChecked
namespace NV

theorem byteAt?_eq_some {m : Bytes} {i : Nat} (h : i < m.length) : byteAt? m i = some (byteAt m i) := by
  simp [byteAt?, byteAt, h]

theorem sliceTo?_eq_some {m : Bytes} {a b : Nat} (hab : a ≤ b) (hb : b ≤ m.length) :
    sliceTo? m a b = some (slice m a (b - a)) :=
  if_pos ⟨hab, hb⟩

theorem sliceFrom?_eq_some {m : Bytes} {a : Nat} (h : a ≤ m.length) : sliceFrom? m a = some (m.drop a) :=
  if_pos h

theorem unpackU16?_eq (msg : Bytes) (off : Nat) : unpackU16? msg off = some (unpackU16 msg off) := by
  unfold unpackU16? unpackU16
  split
  · rfl
  · simp (disch := omega) only [byteAt?_eq_some]; rfl

theorem unpackU32?_eq (msg : Bytes) (off : Nat) : unpackU32? msg off = some (unpackU32 msg off) := by
  unfold unpackU32? unpackU32
  split
  · rfl
  · simp (disch := omega) only [byteAt?_eq_some]; rfl

/- The loops: induction along the total model gives one case per path, with the path's guards as
hypotheses (`*`).  They decide the twin's guards, and `omega`, the discharger, gets the access bounds
from them. -/

theorem skipNameLoop?_eq (msg : Bytes) (off : Nat) : skipNameLoop? msg off = some (skipNameLoop msg off) := by
  fun_induction skipNameLoop msg off
  all_goals rw [skipNameLoop?]
  all_goals simp +zetaDelta (disch := omega) only [*, byteAt?_eq_some, ↓reduceDIte, ↓reduceIte,
    Nat.reduceEqDiff]

theorem unpackNameLoop?_eq (msg : Bytes) (currOff newOff ptr : Nat) (name : Bytes) :
    unpackNameLoop? msg currOff newOff ptr name = some (unpackNameLoop msg currOff newOff ptr name) := by
  fun_induction unpackNameLoop msg currOff newOff ptr name
  all_goals rw [unpackNameLoop?]
  all_goals simp +zetaDelta (disch := omega) only [*, byteAt?_eq_some, sliceTo?_eq_some,
    Nat.add_sub_cancel_left, ↓reduceDIte, ↓reduceIte, Nat.reduceEqDiff]
  -- left: the two ends at the root label (`name'` too long or not) and the pointer jump (`newOff'`),
  -- whose hypotheses the induction principle spells with `dite` where the twin has `ite`, so that
  -- they fit only up to unfolding
  case case2 hlong => exact if_pos hlong
  case case3 hlong => exact if_neg hlong
  case case8 ih => exact ih

theorem unpackOptsLoop?_eq (msg : Bytes) (off endOff : Nat) (acc : List Opt) :
    unpackOptsLoop? msg off endOff acc = some (unpackOptsLoop msg off endOff acc) := by
  -- the twin reaches `off + 4` as `off + 2 + 2` and `slice` as `drop` followed by `take`; its last
  -- guard (`o2 + l ≤ off`, unreachable) is the one no path condition decides: `if_neg` by `omega`
  have o2 (n : Nat) : n + 2 + 2 = n + 4 := rfl
  have sl (m : Bytes) (a n : Nat) : (m.drop a).take n = slice m a n := rfl
  fun_induction unpackOptsLoop msg off endOff acc
  all_goals rw [unpackOptsLoop?]
  all_goals simp +zetaDelta (disch := omega) only [*, o2, sl, unpackU16?_eq, unpackU16, sliceFrom?_eq_some,
    List.length_drop, ↓reduceDIte, ↓reduceIte, if_neg]

end NV
