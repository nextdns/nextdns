/-
  NV.Lemmas.ListText — text as lists, for several components.  `strings.TrimSpace` and its relatives are
  `List.dropWhile` at the front and `List.dropWhile` of the reversed list at the back: what NV.Config and
  NV.Router need of `dropWhile` beyond core, in terms of the first and the last element.  Texts made of pieces
  that each end with a separator (NV.Fwd.render, NV.Cache.joinDots) are read back by core's `List.splitOn`.
-/
namespace NV.ListText
variable {α : Type} {p : α → Bool}

theorem dropWhile_of_head? {l : List α} (h : ∀ c, l.head? = some c → p c = false) : l.dropWhile p = l := by
  cases l with
  | nil => rfl
  | cons c cs => exact List.dropWhile_cons_of_neg (by simp [h c rfl])

theorem head?_dropWhile {l : List α} {c : α} (h : (l.dropWhile p).head? = some c) : p c = false := by
  simpa [h] using List.head?_dropWhile_not p l

theorem getLast?_dropWhile {l : List α} {c : α} (h : (l.dropWhile p).getLast? = some c) : l.getLast? = some c := by
  obtain ⟨t, ht⟩ := List.dropWhile_suffix (l := l) p
  rw [← ht, List.getLast?_append, h, Option.some_or]

/-- dropping stops at `b` at the latest -/
theorem dropWhile_append_keep (a c : List α) {b : List α} (hne : b ≠ []) (h : ∀ x, b.head? = some x → p x = false) :
    (a ++ b ++ c).dropWhile p = a.dropWhile p ++ b ++ c := by
  obtain ⟨x, xs, rfl⟩ := List.exists_cons_of_ne_nil hne
  rw [List.append_assoc, List.dropWhile_append]
  split
  next he => rw [List.isEmpty_iff.mp he, List.cons_append, List.dropWhile_cons_of_neg (by simp [h x rfl])]; rfl
  next => rw [List.append_assoc]

def Trimmed (p : α → Bool) (l : List α) : Prop :=
  (∀ c, l.head? = some c → p c = false) ∧ ∀ c, l.getLast? = some c → p c = false

theorem Trimmed.of_forall {l : List α} (h : ∀ c ∈ l, p c = false) : Trimmed p l :=
  ⟨fun c hc => h c (List.mem_of_head? hc), fun c hc => h c (List.mem_of_getLast? hc)⟩

theorem Trimmed.append {a b : List α} (ha : ∀ c, a.head? = some c → p c = false) (hane : a ≠ [])
    (hb : ∀ c, b.getLast? = some c → p c = false) (hbne : b ≠ []) : Trimmed p (a ++ b) := by
  refine ⟨fun c hc => ?_, fun c hc => ?_⟩
  · obtain ⟨x, xs, rfl⟩ := List.exists_cons_of_ne_nil hane
    exact ha c (by simpa using hc)
  · obtain ⟨y, ys, rfl⟩ := List.exists_cons_of_ne_nil hbne
    exact hb c (by simpa [List.getLast?_append] using hc)

theorem Trimmed.cons {c : α} {b : List α} (hc : p c = false) (hb : ∀ x, b.getLast? = some x → p x = false) :
    Trimmed p (c :: b) := by
  refine ⟨fun x hx => by cases hx; exact hc, fun x hx => ?_⟩
  cases b with
  | nil => cases hx; exact hc
  | cons y ys => exact hb x (by simpa [List.getLast?_cons_cons] using hx)

theorem splitOn_flatMap_sep [BEq α] [LawfulBEq α] (sep : α) (ls : List (List α)) (h : ∀ l ∈ ls, sep ∉ l) :
    (ls.flatMap (· ++ [sep])).splitOn sep = ls ++ [[]] := by
  induction ls with
  | nil => rfl
  | cons l ls ih =>
    rw [List.forall_mem_cons] at h
    rw [List.flatMap_cons, List.append_assoc, List.singleton_append, List.splitOn_append_cons_self_of_not_mem h.1,
      ih h.2]; rfl

theorem flatMap_sep_inj [BEq α] [LawfulBEq α] (sep : α) {a b : List (List α)} (ha : ∀ l ∈ a, sep ∉ l) (hb : ∀ l ∈ b, sep ∉ l)
    (h : a.flatMap (· ++ [sep]) = b.flatMap (· ++ [sep])) : a = b :=
  List.append_cancel_right (by rw [← splitOn_flatMap_sep sep a ha, h, splitOn_flatMap_sep sep b hb])

end NV.ListText
