/-
  NV.Lemmas.TTL — for C07, in two parts.
  First what holds of every byte string: one iteration of the record loop in closed form, the invariant
  `LoopInv` that the loop keeps and `updateTTL` after it, then the reply buffer `withID` of `AdjustedResponse`.
  From `validName_pos` on the input is the encoding of a well-formed `Spec.Msg`: the question loop and the
  record loop take it item by item, the header reads give the section lengths, and the fold behind `minSpec`
  is a `List.min?`.
-/
import NV.Lemmas.Wire
import NV.Model.TTL
import NV.Spec.Msg
namespace NV.TTL
open NV NV.Spec

/-- `Except` has no decidable equality: a closed run of the model is decided through `toOption` -/
theorem eq_ok_of_toOption {ε α : Type} {x : Except ε α} {a : α} (h : x.toOption = some a) : x = .ok a := by
  cases x with
  | error e => nomatch h
  | ok b => exact congrArg Except.ok (Option.some.inj h)

theorem be32_length (n : Nat) : (be32 n).length = 4 := NV.be32_length n
theorem be16_length (n : Nat) : (be16 n).length = 2 := NV.be16_length n

theorem byteAt_setBytes_in (m : Bytes) (off : Nat) (vs : Bytes) (i : Nat)
    (h : off + vs.length ≤ m.length) (hi : off ≤ i ∧ i < off + vs.length) :
    byteAt (setBytes m off vs) i = byteAt vs (i - off) := by
  rw [setBytes_eq m off vs h, byteAt_append_left _ _ _ (by simp; omega),
    byteAt_append_of_le _ _ _ (by simp; omega)]
  congr 1; simp; omega

theorem unpackUint16_drop (b : Bytes) (l : Nat) (h : l + 2 ≤ b.length) :
    unpackUint16 (b.drop l) = .ok (rd16 b l) := by
  have h0 : l < b.length := by omega
  have h1 : l + 1 < b.length := by omega
  rw [List.drop_eq_getElem_cons h0, List.drop_eq_getElem_cons h1]
  simp [unpackUint16, rd16, byteAt_eq, h0, h1]

theorem unpackUint32_drop (b : Bytes) (l : Nat) (h : l + 4 ≤ b.length) :
    unpackUint32 (b.drop l) = .ok (rd32 b l) := by
  have h0 : l < b.length := by omega
  have h1 : l + 1 < b.length := by omega
  have h2 : l + 2 < b.length := by omega
  have h3 : l + 3 < b.length := by omega
  rw [List.drop_eq_getElem_cons h0, List.drop_eq_getElem_cons h1, List.drop_eq_getElem_cons h2,
    List.drop_eq_getElem_cons h3]
  simp [unpackUint32, rd32, byteAt_eq, h0, h1, h2, h3]

theorem sliceFrom_ok (b : Bytes) (k : Nat) (h : k ≤ b.length) : sliceFrom b k = .ok (b.drop k) := by
  simp [sliceFrom, h]

theorem packUint32At_ok (m : Bytes) (k n : Nat) (h : k + 4 ≤ m.length) :
    packUint32At m k n = .ok (setBytes m k (be32 n)) := by
  have : k ≤ m.length := by omega
  simp [packUint32At, h, this]

/-! The three per-record functions of the model are written with the tests of the Go code; in closed
form they are a truncated subtraction and two minima. -/

theorem aged_eq (t age : Nat) : aged t age = t - age := by unfold aged; split <;> omega

theorem clampTTL_eq (t maxTTL : Nat) : clampTTL t maxTTL = if 0 < maxTTL then min t maxTTL else t := by
  unfold clampTTL; split <;> split <;> omega

theorem minStep_eq (mt t age maxAge : Nat) :
    minStep mt t age maxAge = if 0 < maxAge ∧ maxAge < age then 0 else min mt t := by
  unfold minStep; split
  · rfl
  · split <;> omega

theorem clampTTL_le (t maxTTL : Nat) : clampTTL t maxTTL ≤ t := by rw [clampTTL_eq]; split <;> omega

theorem minStep_le (mt t age maxAge : Nat) : minStep mt t age maxAge ≤ mt ∧ minStep mt t age maxAge ≤ t ∧
    (0 < maxAge → maxAge < age → minStep mt t age maxAge = 0) := by
  rw [minStep_eq]; split <;> omega

theorem clampTTL_aged_le (t age maxTTL : Nat) : clampTTL (aged t age) maxTTL ≤ t - age :=
  aged_eq t age ▸ clampTTL_le (aged t age) maxTTL

/-- what one iteration does to the buffer, as big-endian reads and one write -/
def stepBuf (rest : Bytes) (l age maxTTL : Nat) : Bytes :=
  if rd16 rest l ≠ typeOPT then setBytes rest (l + 4) (be32 (clampTTL (aged (rd32 rest (l + 4)) age) maxTTL))
  else rest

/-- … and to the minimum -/
def stepMin (rest : Bytes) (l age maxAge addIdx i mt : Nat) : Nat :=
  if rd16 rest l ≠ typeOPT then
    if i < addIdx then minStep mt (aged (rd32 rest (l + 4)) age) age maxAge else mt
  else mt

section
variable {rest : Bytes} {l age maxAge maxTTL addIdx i mt : Nat}

theorem stepBuf_opt (h : rd16 rest l = typeOPT) : stepBuf rest l age maxTTL = rest :=
  if_neg (not_not_intro h)

theorem stepBuf_of_ne_opt (h : rd16 rest l ≠ typeOPT) :
    stepBuf rest l age maxTTL = setBytes rest (l + 4) (be32 (clampTTL (aged (rd32 rest (l + 4)) age) maxTTL)) :=
  if_pos h

theorem stepMin_opt (h : rd16 rest l = typeOPT) : stepMin rest l age maxAge addIdx i mt = mt :=
  if_neg (not_not_intro h)

theorem stepMin_of_ne_opt (h : rd16 rest l ≠ typeOPT) :
    stepMin rest l age maxAge addIdx i mt =
      if i < addIdx then minStep mt (aged (rd32 rest (l + 4)) age) age maxAge else mt :=
  if_pos h
end

@[simp] theorem stepBuf_length (rest : Bytes) (l age maxTTL : Nat) :
    (stepBuf rest l age maxTTL).length = rest.length := by
  by_cases ht : rd16 rest l = typeOPT
  · rw [stepBuf_opt ht]
  · rw [stepBuf_of_ne_opt ht, setBytes_length]

theorem rrStep_ok (age maxAge maxTTL addIdx i : Nat) (rest : Bytes) (mt l : Nat)
    (h : l + 10 ≤ rest.length) :
    rrStep age maxAge maxTTL addIdx i rest mt l =
      .ok (stepBuf rest l age maxTTL, stepMin rest l age maxAge addIdx i mt, rd16 rest (l + 8)) := by
  unfold rrStep stepBuf stepMin
  -- every slice and read is in range by `h`, also after the write: it keeps the length and ends at `l + 8`
  by_cases ht : rd16 rest l = typeOPT <;>
    simp (disch := (try simp only [setBytes_length, be32_length]); omega) only [bind, Except.bind, pure,
      Except.pure, sliceFrom_ok, unpackUint16_drop, unpackUint32_drop, packUint32At_ok, rd16_setBytes_out,
      ht, ne_eq, not_true_eq_false, not_false_eq_true, ↓reduceIte]

theorem stepBuf_drop (rest : Bytes) (l age maxTTL k : Nat) (hk : l + 8 ≤ k) :
    (stepBuf rest l age maxTTL).drop k = rest.drop k := by
  by_cases ht : rd16 rest l = typeOPT
  · rw [stepBuf_opt ht]
  · rw [stepBuf_of_ne_opt ht]; exact setBytes_drop _ _ _ _ (by simp; omega)

/-- `l`: the length of the name, `k`: of the record -/
theorem rrLoop_succ (age maxAge maxTTL addIdx n i : Nat) (rest : Bytes) (mt : Nat) {l k : Nat}
    (hl : skipName rest = l) (hk : l + 10 + rd16 rest (l + 8) = k) :
    rrLoop age maxAge maxTTL addIdx (n + 1) i rest mt =
      if rest.isEmpty then .ok (rest, some mt)
      else if l = 0 ∨ rest.length < l + 10 then .ok (rest, none)
      else if rest.length < k then .ok (stepBuf rest l age maxTTL, none)
      else
        match rrLoop age maxAge maxTTL addIdx n (i + 1) (rest.drop k) (stepMin rest l age maxAge addIdx i mt) with
        | .error e => .error e
        | .ok (out, r) => .ok ((stepBuf rest l age maxTTL).take k ++ out, r) := by
  subst hl hk
  rw [rrLoop]
  by_cases he : rest.isEmpty
  · simp [he]
  by_cases hl : skipName rest = 0
  · simp [he, hl]
  by_cases h10 : rest.length < skipName rest + 10
  · simp [he, hl, h10]
  simp only [he, hl, h10, lenLT_iff, rrStep_ok _ _ _ _ _ _ _ _ (Nat.le_of_not_lt h10), stepBuf_length,
    Bool.false_eq_true, ↓reduceIte, false_or]
  by_cases hk : rest.length < skipName rest + 10 + rd16 rest (skipName rest + 8)
  · simp [hk]
  · simp only [hk, ↓reduceIte]
    rw [stepBuf_drop _ _ _ _ _ (by omega)]
    rfl

theorem stepBuf_frame (rest : Bytes) (l age maxTTL j : Nat) (h : l + 10 ≤ rest.length)
    (hj : j < l + 4 ∨ l + 4 + 4 ≤ j) : byteAt (stepBuf rest l age maxTTL) j = byteAt rest j := by
  by_cases ht : rd16 rest l = typeOPT
  · rw [stepBuf_opt ht]
  · rw [stepBuf_of_ne_opt ht]; exact byteAt_setBytes_out rest (l + 4) _ j (by simp; omega) hj

theorem stepBuf_ttl (rest : Bytes) (l age maxTTL : Nat) (h : l + 10 ≤ rest.length)
    (ht : rd16 rest l ≠ typeOPT) :
    rd32 (stepBuf rest l age maxTTL) (l + 4) = clampTTL (aged (rd32 rest (l + 4)) age) maxTTL := by
  rw [stepBuf_of_ne_opt ht]
  have := clampTTL_aged_le (rd32 rest (l + 4)) age maxTTL
  have := rd32_lt rest (l + 4)
  exact rd32_setBytes_be32 rest (l + 4) _ (by omega) (by omega)

section
variable {age maxAge maxTTL addIdx : Nat}

/-- the TTL field at `off`, of the record with index `idx`; the records below `addIdx` count for the
minimum `m`.  `lo`: a name takes at least one byte and the TTL comes four bytes after it. -/
structure Field (age maxAge maxTTL addIdx : Nat) (inp out : Bytes) (m off idx : Nat) : Prop where
  lo : 5 ≤ off
  hi : off + 4 ≤ inp.length
  typ : rd16 inp (off - 4) ≠ typeOPT
  ttl : rd32 out off = clampTTL (aged (rd32 inp off) age) maxTTL
  min : idx < addIdx → m ≤ rd32 inp off - age ∧ (0 < maxAge → maxAge < age → m = 0)

namespace Field
variable {a a' b b' : Bytes} {m m' off idx : Nat}

theorem mono (h : Field age maxAge maxTTL addIdx a a' m off idx) (hm : m' ≤ m) :
    Field age maxAge maxTTL addIdx a a' m' off idx :=
  { h with min := fun hi => ⟨Nat.le_trans hm (h.min hi).1, fun x y => by have := (h.min hi).2 x y; omega⟩ }

theorem append_left (h : Field age maxAge maxTTL addIdx a a' m off idx) (hl : a'.length = a.length) :
    Field age maxAge maxTTL addIdx (a ++ b) (a' ++ b') m off idx := by
  have hlo := h.lo
  have hhi := h.hi
  have e : rd32 (a ++ b) off = rd32 a off := rd32_append_left _ _ _ hhi
  refine ⟨hlo, by rw [List.length_append]; omega, ?_, ?_, ?_⟩
  · rw [rd16_append_left _ _ _ (by omega)]; exact h.typ
  · rw [rd32_append_left _ _ _ (by omega), e]; exact h.ttl
  · rw [e]; exact h.min

theorem append_right (h : Field age maxAge maxTTL addIdx b b' m off idx) (hl : a'.length = a.length) :
    Field age maxAge maxTTL addIdx (a ++ b) (a' ++ b') m (off + a.length) idx := by
  have hlo := h.lo
  have hhi := h.hi
  have e : rd32 (a ++ b) (off + a.length) = rd32 b off := by rw [Nat.add_comm, rd32_append_right]
  refine ⟨by omega, by rw [List.length_append]; omega, ?_, ?_, ?_⟩
  · rw [show off + a.length - 4 = a.length + (off - 4) by omega, rd16_append_right]; exact h.typ
  · rw [e, ← hl, Nat.add_comm off, rd32_append_right]; exact h.ttl
  · rw [e]; exact h.min

end Field

/-- `out` is `inp` with the TTL fields at `offs` aged and capped and nothing else changed; `m`, the
minimum so far or any smaller number, is below the start value `mt` and every counted field -/
structure LoopInv (age maxAge maxTTL addIdx : Nat) (offs : List (Nat × Nat)) (inp : Bytes) (mt : Nat)
    (out : Bytes) (m : Nat) : Prop where
  len : out.length = inp.length
  frame : ∀ j, byteAt out j ≠ byteAt inp j → ∃ p ∈ offs, p.1 ≤ j ∧ j < p.1 + 4
  le : m ≤ mt
  field : ∀ p ∈ offs, Field age maxAge maxTTL addIdx inp out m p.1 p.2

namespace LoopInv

theorem refl (inp : Bytes) (mt : Nat) : LoopInv age maxAge maxTTL addIdx [] inp mt inp mt :=
  ⟨rfl, fun _ h => absurd rfl h, Nat.le_refl _, fun _ h => nomatch h⟩

theorem mono {offs inp mt out m m'} (h : LoopInv age maxAge maxTTL addIdx offs inp mt out m) (hm : m' ≤ m) :
    LoopInv age maxAge maxTTL addIdx offs inp mt out m' :=
  ⟨h.len, h.frame, Nat.le_trans hm h.le, fun p hp => (h.field p hp).mono hm⟩

/-- sequential composition: the second pass starts from the first one's minimum -/
theorem append {offs₁ offs₂ a a' b b' mt mt₁ m}
    (h1 : LoopInv age maxAge maxTTL addIdx offs₁ a mt a' mt₁)
    (h2 : LoopInv age maxAge maxTTL addIdx offs₂ b mt₁ b' m) :
    LoopInv age maxAge maxTTL addIdx (offs₁ ++ offs₂.map fun p => (p.1 + a.length, p.2))
      (a ++ b) mt (a' ++ b') m := by
  have hl := h1.len
  refine ⟨by simp [hl, h2.len], ?_, Nat.le_trans h2.le h1.le, ?_⟩
  · intro j h
    by_cases hj : j < a.length
    · rw [byteAt_append_left _ _ _ (by omega), byteAt_append_left _ _ _ hj] at h
      obtain ⟨p, hp, hh⟩ := h1.frame j h
      exact ⟨p, List.mem_append_left _ hp, hh⟩
    · rw [byteAt_append_of_le _ _ _ (by omega), byteAt_append_of_le _ _ _ (by omega), hl] at h
      obtain ⟨p, hp, h1', h2'⟩ := h2.frame _ h
      exact ⟨(p.1 + a.length, p.2), List.mem_append_right _ (List.mem_map.mpr ⟨p, hp, rfl⟩),
        by simp only; omega, by simp only; omega⟩
  · intro p hp
    rcases List.mem_append.mp hp with hp | hp
    · exact ((h1.field p hp).mono h2.le).append_left hl
    · obtain ⟨q, hq, rfl⟩ := List.mem_map.mp hp
      exact (h2.field q hq).append_right hl

/-- one record: the prefix of `k` bytes that one iteration of the loop is done with -/
theorem record (rest : Bytes) (l k i mt : Nat) (hl : l ≠ 0) (h10 : l + 10 ≤ rest.length) (hk : l + 10 ≤ k) :
    LoopInv age maxAge maxTTL addIdx (if rd16 rest l ≠ typeOPT then [(l + 4, i)] else [])
      (rest.take k) mt ((stepBuf rest l age maxTTL).take k) (stepMin rest l age maxAge addIdx i mt) := by
  by_cases ht : rd16 rest l = typeOPT
  · rw [if_neg (not_not_intro ht), stepBuf_opt ht, stepMin_opt ht]
    exact .refl _ mt
  · have hmin := minStep_le mt (aged (rd32 rest (l + 4)) age) age maxAge
    rw [if_pos ht]
    refine ⟨by rw [List.length_take, List.length_take, stepBuf_length], fun j h => ?_, ?_, fun p hp => ?_⟩
    · -- from `k` on both prefixes read as 0
      have hj : j < k := by
        apply Classical.byContradiction; intro hj
        exact h (by simp [byteAt, List.getD_eq_getElem?_getD, List.getElem?_take, hj])
      rw [byteAt_take _ hj, byteAt_take _ hj] at h
      have := not_or.mp fun out => h (stepBuf_frame rest l age maxTTL j h10 out)
      exact ⟨_, List.mem_singleton.mpr rfl, by omega⟩
    · rw [stepMin_of_ne_opt ht]; split
      · exact hmin.1
      · exact Nat.le_refl _
    · cases List.mem_singleton.mp hp
      refine ⟨by omega, by rw [List.length_take]; omega, ?_, ?_, fun hi => ?_⟩
      · rwa [Nat.add_sub_cancel, rd16_take _ _ _ (by omega)]
      · rw [rd32_take _ _ _ (by omega), rd32_take _ _ _ (by omega)]
        exact stepBuf_ttl rest l age maxTTL h10 ht
      · rw [rd32_take _ _ _ (by omega), stepMin_of_ne_opt ht, if_pos hi, ← aged_eq]
        exact hmin.2

end LoopInv

theorem rrLoop_inv (age maxAge maxTTL addIdx : Nat) : ∀ (n i : Nat) (rest : Bytes) (mt : Nat),
    ∃ out r, rrLoop age maxAge maxTTL addIdx n i rest mt = .ok (out, r) ∧
      LoopInv age maxAge maxTTL addIdx (ttlOffs n i rest) rest mt out (r.getD 0) := by
  intro n
  induction n with
  | zero => intro i rest mt; exact ⟨rest, some mt, rfl, .refl rest mt⟩
  | succ n ih =>
    intro i rest mt
    generalize hl : skipName rest = l
    generalize hk : l + 10 + rd16 rest (l + 8) = k
    -- `Spec.ttlOffs` is written with the three tests of `rrLoop_succ` (nothing left, no name or fixed part,
    -- RDLENGTH past the end) in the same order, so each case below settles both sides at once
    rw [rrLoop_succ _ _ _ _ _ _ _ _ hl hk, ttlOffs]
    simp only [hl, hk]
    by_cases he : rest.isEmpty
    · simp only [he, true_or, ↓reduceIte]; exact ⟨_, _, rfl, .refl rest mt⟩
    by_cases h10 : l = 0 ∨ rest.length < l + 10
    · -- `return 0`: the invariant allows any smaller `m`
      simp only [he, h10, or_true, ↓reduceIte]
      exact ⟨_, _, rfl, (LoopInv.refl rest mt).mono (Nat.zero_le _)⟩
    simp only [he, h10, Bool.false_eq_true, or_self, ↓reduceIte]
    have hrecd := LoopInv.record (age := age) (maxAge := maxAge) (maxTTL := maxTTL) (addIdx := addIdx)
      rest l k i mt (fun h => h10 (Or.inl h)) (by omega) (by omega)
    by_cases hlen : rest.length < k
    · -- RDLENGTH runs past the end: the record's prefix is all of `rest`
      simp only [hlen, ↓reduceIte]
      rw [List.take_of_length_le (by omega), List.take_of_length_le (by rw [stepBuf_length]; omega)] at hrecd
      exact ⟨_, _, rfl, hrecd.mono (Nat.zero_le _)⟩
    · simp only [hlen, ↓reduceIte]
      obtain ⟨out', r', hrec, inv⟩ := ih (i + 1) (rest.drop k) (stepMin rest l age maxAge addIdx i mt)
      rw [hrec]
      have := hrecd.append inv
      rw [List.take_append_drop, List.length_take, Nat.min_eq_left (by omega)] at this
      exact ⟨_, _, rfl, this⟩
end

theorem readCounts_ok (msg : Bytes) (h : 12 ≤ msg.length) :
    readCounts msg = .ok (rd16 msg 4, rd16 msg 6, rd16 msg 8, rd16 msg 10) := by
  simp (disch := omega) only [readCounts, bind, Except.bind, pure, Except.pure, sliceFrom_ok,
    unpackUint16_drop]

/-- the empty-slice test of the question loop is the one `skipName` makes anyway -/
theorem skipQuestions_succ (n : Nat) (rest : Bytes) :
    skipQuestions (n + 1) rest =
      if skipName rest = 0 ∨ rest.length < skipName rest + 4 then none
      else skipQuestions n (rest.drop (skipName rest + 4)) := by
  rw [skipQuestions]
  cases rest with
  | nil => simp [skipName]
  | cons c t => by_cases h0 : skipName (c :: t) = 0 <;> simp [h0]

theorem skipQuestions_drop : ∀ (n : Nat) (b rest : Bytes), skipQuestions n b = some rest →
    ∃ k, k ≤ b.length ∧ rest = b.drop k := by
  intro n
  induction n with
  | zero => intro b rest h; exact ⟨0, Nat.zero_le _, (Option.some.inj h).symm⟩
  | succ n ih =>
    intro b rest h
    rw [skipQuestions_succ] at h
    split at h
    · nomatch h
    · obtain ⟨k, hk, hr⟩ := ih _ _ h
      exact ⟨skipName b + 4 + k, by rw [List.length_drop] at hk; omega, by rw [hr, List.drop_drop]⟩

/-- what `updateTTL` returns for the loop's result: `return 0`, or the minimum unless `^minTTL == 0` -/
def finalMin : Option Nat → Nat
  | none => 0
  | some mt => if u32max - mt = 0 then 0 else mt

theorem finalMin_le (r : Option Nat) (h : r.getD 0 ≤ u32max) :
    finalMin r ≤ r.getD 0 ∧ finalMin r < u32max := by
  cases r with
  | none => exact ⟨Nat.le_refl 0, by decide⟩
  | some mt =>
    simp only [finalMin, u32max, Option.getD_some] at h ⊢
    by_cases h0 : 4294967295 - mt = 0 <;> simp only [h0, ↓reduceIte] <;> omega

theorem updateTTL_eq (msg : Bytes) (age maxAge maxTTL : Nat) (h : 12 ≤ msg.length) :
    updateTTL msg age maxAge maxTTL =
      match skipQuestions (rd16 msg 4) (msg.drop 12) with
      | none => .ok (msg, 0)
      | some rest =>
        match rrLoop age maxAge maxTTL (addIdx16 msg) (rrCount16 msg) 0 rest u32max with
        | .error e => .error e
        | .ok (out, r) => .ok (msg.take (msg.length - rest.length) ++ out, finalMin r) := by
  rw [updateTTL, if_neg (by simpa using h), readCounts_ok msg h]
  simp only [addIdx16, rrCount16]
  cases skipQuestions (rd16 msg 4) (msg.drop 12) with
  | none => rfl
  | some rest =>
    simp only
    cases rrLoop age maxAge maxTTL ((rd16 msg 6 + rd16 msg 8) % 65536)
        ((rd16 msg 6 + rd16 msg 8 + rd16 msg 10) % 65536) 0 rest u32max with
    | error e => rfl
    | ok x => obtain ⟨out, _ | mt⟩ := x <;> rfl

/-- `lo`: the 12 header bytes and the 5 of `Field.lo` -/
structure UpdInv (age maxAge maxTTL : Nat) (msg buf : Bytes) (m : Nat) : Prop where
  inv : LoopInv age maxAge maxTTL (addIdx16 msg) (ttlFields msg) msg u32max buf m
  lt : m < u32max
  lo : ∀ p ∈ ttlFields msg, 17 ≤ p.1

theorem updateTTL_inv (msg : Bytes) (age maxAge maxTTL : Nat) :
    ∃ buf m, updateTTL msg age maxAge maxTTL = .ok (buf, m) ∧ UpdInv age maxAge maxTTL msg buf m := by
  -- both early returns leave the message as it is, and `ttlFields` is empty
  have stop (h : ttlFields msg = []) : UpdInv age maxAge maxTTL msg msg 0 :=
    ⟨h ▸ (LoopInv.refl msg _).mono (Nat.zero_le _), by decide, h ▸ fun _ h => nomatch h⟩
  by_cases h12 : msg.length < 12
  · rw [updateTTL, if_pos ((lenLT_iff _ _).mpr h12)]; exact ⟨_, _, rfl, stop (if_pos h12)⟩
  · rw [updateTTL_eq msg _ _ _ (by omega)]
    cases hq : skipQuestions (rd16 msg 4) (msg.drop 12) with
    | none => exact ⟨_, _, rfl, stop (by rw [ttlFields, if_neg h12, hq])⟩
    | some rest =>
      have hf : ttlFields msg = (ttlOffs (rrCount16 msg) 0 rest).map fun p =>
          (p.1 + (msg.length - rest.length), p.2) := by rw [ttlFields, if_neg h12, hq]
      obtain ⟨k, hk, rfl⟩ := skipQuestions_drop _ _ _ hq
      rw [List.length_drop] at hk
      simp only [List.drop_drop] at hf ⊢
      obtain ⟨out, r, hloop, inv⟩ := rrLoop_inv age maxAge maxTTL (addIdx16 msg) (rrCount16 msg) 0
        (msg.drop (12 + k)) u32max
      have hK : msg.length - (msg.drop (12 + k)).length = 12 + k := by rw [List.length_drop]; omega
      rw [hK] at hf
      have hm := finalMin_le r inv.le
      -- the header and the questions count as a pass that changes nothing
      have := ((LoopInv.refl (msg.take (12 + k)) u32max).append inv).mono hm.1
      rw [List.take_append_drop, List.length_take, Nat.min_eq_left (by omega), List.nil_append] at this
      rw [hloop, hK]
      refine ⟨_, _, rfl, hf ▸ this, hm.2, fun p hp => ?_⟩
      obtain ⟨q, hq, rfl⟩ := List.mem_map.mp (hf ▸ hp)
      have := (inv.field q hq).lo
      simp only; omega

theorem updateTTL_inv_of_ok {msg buf : Bytes} {age maxAge maxTTL m : Nat}
    (h : updateTTL msg age maxAge maxTTL = .ok (buf, m)) : UpdInv age maxAge maxTTL msg buf m := by
  obtain ⟨buf', m', h', u⟩ := updateTTL_inv msg age maxAge maxTTL
  rw [h] at h'; cases h'; exact u

theorem ttlFields_type (msg : Bytes) (p : Nat × Nat) (hp : p ∈ ttlFields msg) :
    17 ≤ p.1 ∧ rd16 msg (p.1 - 4) ≠ typeOPT :=
  -- read off a run of `updateTTL`: its parameters play no part in the layout
  let ⟨_, _, _, u⟩ := updateTTL_inv msg 0 0 0
  ⟨u.lo p hp, (u.inv.field p hp).typ⟩

theorem ttlFields_congr (a b : Bytes) (hl : a.length = b.length) (hd : a.drop 4 = b.drop 4) :
    ttlFields a = ttlFields b := by
  have hrd : ∀ o, rd16 a (4 + o) = rd16 b (4 + o) := fun o => by rw [← rd16_drop, ← rd16_drop, hd]
  have h12 : a.drop 12 = b.drop 12 := by
    rw [← List.drop_drop (i := 8) (j := 4), ← List.drop_drop (i := 8) (j := 4), hd]
  unfold ttlFields rrCount16
  rw [hl, hrd 0, hrd 2, hrd 4, hrd 6, h12]

/-- the reply buffer of AdjustedResponse before the TTL pass: the stored message with the query id -/
def withID (id : Nat) (stored : Bytes) : Bytes := b8 (id / 256) :: b8 id :: stored.drop 2

theorem withID_length (id : Nat) (stored : Bytes) (h : 2 ≤ stored.length) :
    (withID id stored).length = stored.length := by simp [withID]; omega

theorem withID_eq (id : Nat) (stored : Bytes) : withID id stored = be16 id ++ stored.drop 2 := rfl

theorem withID_byte (id : Nat) (stored : Bytes) (j : Nat) (h : 2 ≤ j) :
    byteAt (withID id stored) j = byteAt stored j := by
  rw [withID_eq, byteAt_append_of_le _ _ _ h, byteAt_drop, be16_length, Nat.add_sub_cancel' h]

theorem withID_id (id : Nat) (stored : Bytes) (h : id < 65536) : rd16 (withID id stored) 0 = id :=
  rd16_be16 id _ h

theorem withID_fields (id : Nat) (stored : Bytes) (h : 2 ≤ stored.length) :
    ttlFields (withID id stored) = ttlFields stored := by
  apply ttlFields_congr _ _ (withID_length id stored h)
  simp [withID]

theorem adjustedResponse_eq (stored : Bytes) (bufLen id : Nat) (d : Int) (maxAge maxTTL : Nat)
    (h12 : 12 ≤ stored.length) (hb : stored.length ≤ bufLen) :
    adjustedResponse stored bufLen id d maxAge maxTTL =
      match updateTTL (withID id stored) (ageOf d) maxAge maxTTL with
      | .error e => .error e
      | .ok (out, m) => .ok (stored.length, out, m) := by
  unfold adjustedResponse
  simp only [if_neg (Nat.not_lt.mpr h12), if_neg (Nat.not_lt.mpr hb)]
  rfl

theorem validName_pos {n : Bytes} (h : ValidName n) : 0 < n.length := by
  cases h <;> simp

theorem skipName_valid {n : Bytes} (h : ValidName n) : ∀ tail, skipName (n ++ tail) = n.length := by
  induction h with
  | root => intro tail; simp [skipName]
  | ptr a b ha => intro tail; simp [skipName, ha]
  | label c lab rest hc0 hc64 hlen hrest ih =>
    intro tail
    have hpos := validName_pos hrest
    -- the model's `match` on the rest's result wants it as a successor
    obtain ⟨l', hl'⟩ : ∃ l', rest.length = l' + 1 := ⟨rest.length - 1, by omega⟩
    have hd : List.drop c.toNat (lab ++ (rest ++ tail)) = rest ++ tail := List.drop_left' hlen
    have hlt : lenLT (lab ++ (rest ++ tail)) c.toNat = false := by
      rw [← Bool.not_eq_true, lenLT_iff]; simp; omega
    have hc : c.toNat / 64 = 0 := by omega
    have hne : c.toNat ≠ 0 := by omega
    simp only [List.cons_append, List.append_assoc]
    rw [skipName]
    simp only [hc, ↓reduceIte, hne, hlt, Bool.false_eq_true, hd, ih tail, hl']
    simp; omega

theorem question_len (q : Question) : q.encode.length = q.name.length + 4 := by
  simp [Question.encode]

theorem skipQuestions_enc : ∀ (qs : List Question) (tail : Bytes), (∀ q ∈ qs, q.WF) →
    skipQuestions qs.length (encQs qs ++ tail) = some tail := by
  intro qs
  induction qs with
  | nil => intro tail _; rfl
  | cons q qs ih =>
    intro tail hwf
    have hq := (hwf q (by simp)).1
    have hpos := validName_pos hq
    have hskip : skipName (q.encode ++ (encQs qs ++ tail)) = q.name.length := by
      simp only [Question.encode, List.append_assoc]; exact skipName_valid hq _
    rw [show encQs (q :: qs) ++ tail = q.encode ++ (encQs qs ++ tail) from List.append_assoc ..,
      List.length_cons, skipQuestions_succ, hskip,
      if_neg (by rw [List.length_append, question_len]; omega), List.drop_left' (question_len q)]
    exact ih tail fun q' hq' => hwf q' (by simp [hq'])

/-- the fixed part of a record after its name -/
def RR.fixed (r : RR) : Bytes := be16 r.type ++ be16 r.cls ++ be32 r.ttl ++ be16 r.rdata.length

theorem RR.encode_length (r : RR) : r.encode.length = r.name.length + 10 + r.rdata.length := by
  simp only [RR.encode, List.length_append, be16_length, be32_length]

theorem serve_opt {r : RR} (h : r.type = typeOPT) (age maxTTL : Nat) : r.serve age maxTTL = r := by
  rw [RR.serve, servedTTL, if_pos h]

theorem servedTTL_of_ne_opt {r : RR} (h : r.type ≠ typeOPT) (age maxTTL : Nat) :
    servedTTL age maxTTL r = clampTTL (aged r.ttl age) maxTTL :=
  if_neg h

/-- the `minTTL` update for a counted record -/
def minF (age maxAge : Nat) (mt : Nat) (r : RR) : Nat := minStep mt (aged r.ttl age) age maxAge

theorem minSpec_eq (m : Msg) (age maxAge : Nat) :
    minSpec m age maxAge = finalMin (some (m.counted.foldl (minF age maxAge) u32max)) := rfl

section
variable (r : RR) (X : Bytes)

/-- `RR.encode` nests to the left: each `.left` drops the last field, the closing `.right` is the field read -/
theorem at_encode : At (r.encode ++ X) 0 r.encode := ⟨[], X, rfl, rfl⟩

theorem rd_type (h : r.type < 65536) : rd16 (r.encode ++ X) r.name.length = r.type := by
  simpa using (at_encode r X).left.left.left.left.right.rd16 h

theorem rd_ttl (h : r.ttl < 4294967296) : rd32 (r.encode ++ X) (r.name.length + 4) = r.ttl := by
  simpa using (at_encode r X).left.left.right.rd32 h

theorem rd_rdlen (h : r.rdata.length < 65536) :
    rd16 (r.encode ++ X) (r.name.length + 8) = r.rdata.length := by
  simpa using (at_encode r X).left.right.rd16 h

theorem skipName_encode (h : ValidName r.name) : skipName (r.encode ++ X) = r.name.length := by
  simp only [RR.encode, List.append_assoc]; exact skipName_valid h _

theorem stepBuf_encode (ht : r.type < 65536) (httl : r.ttl < 4294967296) (age maxTTL : Nat) :
    stepBuf (r.encode ++ X) r.name.length age maxTTL = (r.serve age maxTTL).encode ++ X := by
  rw [stepBuf, rd_type r X ht, rd_ttl r X httl]
  by_cases hopt : r.type = typeOPT
  · rw [if_neg (not_not_intro hopt), serve_opt hopt]
  · have e : ∀ r' : RR, r'.encode ++ X = (r'.name ++ be16 r'.type ++ be16 r'.cls) ++
        (be32 r'.ttl ++ (be16 r'.rdata.length ++ r'.rdata ++ X)) := fun r' => by simp [RR.encode]
    rw [if_pos hopt, e r, e (r.serve age maxTTL),
      show r.name.length + 4 = (r.name ++ be16 r.type ++ be16 r.cls).length by simp,
      setBytes_mid _ _ _ _ (by rfl)]
    rw [RR.serve, servedTTL_of_ne_opt hopt]

/-- `rrLoop_succ` with every read done on `r.encode` -/
theorem rrLoop_cons (age maxAge maxTTL addIdx n i mt : Nat) (hr : r.WF) :
    rrLoop age maxAge maxTTL addIdx (n + 1) i (r.encode ++ X) mt =
      match rrLoop age maxAge maxTTL addIdx n (i + 1) X
          (if r.type ≠ typeOPT then (if i < addIdx then minF age maxAge mt r else mt) else mt) with
      | .error e => .error e
      | .ok (out, res) => .ok ((r.serve age maxTTL).encode ++ out, res) := by
  obtain ⟨hn, ht, _, httl, hrd⟩ := hr
  have hpos := validName_pos hn
  have hlen : (r.encode ++ X).length = r.name.length + 10 + r.rdata.length + X.length := by
    simp [RR.encode_length]
  rw [rrLoop_succ _ _ _ _ _ _ _ _ (skipName_encode r X hn) (congrArg (r.name.length + 10 + ·) (rd_rdlen r X hrd)),
    List.isEmpty_eq_false_iff.mpr (List.ne_nil_of_length_pos (by omega)), hlen, if_neg (by simp),
    if_neg (by omega), if_neg (by omega), stepBuf_encode r X ht httl, stepMin, rd_type r X ht, rd_ttl r X httl,
    List.drop_left' (RR.encode_length r), List.take_left'
      (show (r.serve age maxTTL).encode.length = r.name.length + 10 + r.rdata.length from RR.encode_length _)]
  rfl  -- unfolds `minF`
end

/-- `rs.take (addIdx - i)`: of records numbered from `i`, those below `addIdx` -/
theorem rrLoop_enc (age maxAge maxTTL addIdx : Nat) : ∀ (rs : List RR) (i mt : Nat), (∀ r ∈ rs, r.WF) →
    rrLoop age maxAge maxTTL addIdx rs.length i (encRRs rs) mt =
      .ok (encRRs (rs.map (RR.serve age maxTTL)),
        some (((rs.take (addIdx - i)).filter fun r => r.type ≠ typeOPT).foldl (minF age maxAge) mt)) := by
  intro rs
  induction rs with
  | nil => intro i mt _; simp [rrLoop, encRRs]
  | cons r rs ih =>
    intro i mt hwf
    rw [show encRRs (r :: rs) = r.encode ++ encRRs rs from rfl, List.length_cons,
      rrLoop_cons r _ _ _ _ _ _ _ _ (hwf r (by simp)), ih (i + 1) _ fun r' hr' => hwf r' (by simp [hr'])]
    -- the head record is counted iff `i < addIdx` and it is not OPT
    by_cases hi : i < addIdx
    · rw [show addIdx - i = addIdx - (i + 1) + 1 by omega, List.take_succ_cons]
      by_cases ho : r.type = typeOPT <;> simp [encRRs, hi, ho]
    · rw [show addIdx - i = 0 by omega, show addIdx - (i + 1) = 0 by omega]
      simp [encRRs, hi]

theorem flatMap_length_ge {α : Type} (f : α → Bytes) (c : Nat) :
    ∀ l : List α, (∀ x ∈ l, c ≤ (f x).length) → c * l.length ≤ (l.flatMap f).length
  | [], _ => by simp
  | x :: l, h => by
    have := flatMap_length_ge f c l fun y hy => h y (by simp [hy])
    have := h x (by simp)
    rw [List.flatMap_cons, List.length_append, List.length_cons, Nat.mul_add_one]
    omega

theorem encode_length (m : Msg) : m.encode.length = 12 + (encQs m.questions).length + (encRRs m.rrs).length := by
  simp only [Msg.encode, List.length_append, be16_length]

/-- the size bound behind `rrcount_no_overflow`: a question takes at least 5 bytes, a record at least 11 -/
theorem wf_counts (m : Msg) (h : m.WF) : 12 + 5 * m.questions.length + 11 * m.rrs.length ≤ 65535 := by
  obtain ⟨_, _, hqs, hrs, hlen⟩ := h
  have hq : 5 * m.questions.length ≤ (encQs m.questions).length :=
    flatMap_length_ge Question.encode 5 _ fun q hq => by
      have := validName_pos (hqs q hq).1; rw [question_len]; omega
  have hr : 11 * m.rrs.length ≤ (encRRs m.rrs).length :=
    flatMap_length_ge RR.encode 11 _ fun r hr => by
      have := validName_pos (hrs r hr).1; rw [RR.encode_length]; omega
  rw [encode_length] at hlen
  omega

theorem rrs_length (m : Msg) :
    m.rrs.length = m.answers.length + m.authorities.length + m.additionals.length := by
  rw [Msg.rrs, List.length_append, List.length_append]

theorem encode_hdr (m : Msg) (h : m.WF) :
    rd16 m.encode 4 = m.questions.length ∧ rd16 m.encode 6 = m.answers.length ∧
    rd16 m.encode 8 = m.authorities.length ∧ rd16 m.encode 10 = m.additionals.length := by
  have := wf_counts m h
  have := rrs_length m
  obtain ⟨hq, ha, hn, hd⟩ : m.questions.length < 65536 ∧ m.answers.length < 65536 ∧
      m.authorities.length < 65536 ∧ m.additionals.length < 65536 := by omega
  have a := (At.self m.encode).left.left
  exact ⟨a.left.left.left.right.rd16 hq, a.left.left.right.rd16 ha, a.left.right.rd16 hn, a.right.rd16 hd⟩

theorem encode_drop (m : Msg) : m.encode.drop 12 = encQs m.questions ++ encRRs m.rrs := by
  rw [Msg.encode, List.append_assoc _ (encQs _)]; exact List.drop_left' rfl

theorem encode_mapTTL (m : Msg) (age maxTTL : Nat) :
    (m.mapTTL age maxTTL).encode =
      m.encode.take (m.encode.length - (encRRs m.rrs).length) ++ encRRs (m.rrs.map (RR.serve age maxTTL)) := by
  have hr : (m.mapTTL age maxTTL).rrs = m.rrs.map (RR.serve age maxTTL) := by
    simp only [Msg.mapTTL, Msg.rrs, List.map_append]
  rw [Msg.encode, Msg.encode, hr, List.take_left' (by simp only [List.length_append]; omega)]
  simp only [Msg.mapTTL, List.length_map]

theorem withID_encode (id : Nat) (m : Msg) : withID id m.encode = ({ m with id := id } : Msg).encode := by
  simp [withID, Msg.encode, be16, Msg.rrs]

/-- once max-age is exceeded the first counted record sets the minimum to 0, where it stays -/
theorem foldl_minF_old {age maxAge : Nat} (h : 0 < maxAge ∧ maxAge < age) :
    ∀ (L : List RR) (init : Nat), L ≠ [] → L.foldl (minF age maxAge) init = 0
  | [], _, hL => absurd rfl hL
  | [_], _, _ => if_pos h
  | _ :: r :: L, _, _ => foldl_minF_old h (r :: L) _ (List.cons_ne_nil _ _)

theorem foldl_minF_min {age maxAge : Nat} (h : ¬ (0 < maxAge ∧ maxAge < age)) (L : List RR) (init : Nat) :
    L.foldl (minF age maxAge) init = (L.map fun r => r.ttl - age).foldl min init := by
  rw [List.foldl_map]
  congr 1; funext mt r
  rw [minF, minStep_eq, if_neg h, aged_eq]

theorem foldl_minF_spec {age maxAge : Nat} (hE : ¬ (0 < maxAge ∧ maxAge < age)) {L : List RR} (hL : L ≠ [])
    (hlt : ∀ r ∈ L, r.ttl < u32max) :
    (∃ r ∈ L, L.foldl (minF age maxAge) u32max = r.ttl - age) ∧
    ∀ r ∈ L, L.foldl (minF age maxAge) u32max ≤ r.ttl - age := by
  rw [foldl_minF_min hE]
  -- `l.foldl min a` is `(a :: l).min?`: a member of `a :: l` below all the others
  obtain ⟨hmem, hle⟩ := List.min?_eq_some_iff.mp
    (List.min?_cons' (x := u32max) (xs := L.map fun r => r.ttl - age))
  have hle' : ∀ r ∈ L, (L.map fun r => r.ttl - age).foldl min u32max ≤ r.ttl - age := fun r hr =>
    hle _ (List.mem_cons_of_mem _ (List.mem_map.mpr ⟨r, hr, rfl⟩))
  refine ⟨?_, hle'⟩
  rcases List.mem_cons.mp hmem with h | h
  · obtain ⟨r, hr⟩ := List.exists_mem_of_ne_nil _ hL
    have := hle' r hr
    have := hlt r hr
    omega
  · obtain ⟨r, hr, e⟩ := List.mem_map.mp h
    exact ⟨r, hr, e.symm⟩

end NV.TTL
