/-
  NV.Lemmas.LastMod — for C15: under any interleaving the time recorded once all handlers are done is `newest`.
-/
import NV.Model.LastMod
namespace NV.LastModL
open NV.LastMod

/-- Kept by every step of a handler in `P` (`step_inv`, `run_inv`): the recorded time never falls, bounds the announced
time of every handler that is done, and is the initial one or that of a handler in `P`. Once all of `P` are done this
is `IsNewest`, which `newest` meets too and which fixes the value. -/
def Inv (ts : Nat → Nat) (cur0 : Nat) (P : Nat → Prop) (s : St) : Prop :=
  cur0 ≤ s.cur ∧ (∀ i, s.ph i = .done → ts i ≤ s.cur) ∧ (s.cur = cur0 ∨ ∃ i, P i ∧ s.cur = ts i)

theorem init_inv (ts : Nat → Nat) (cur0 : Nat) (P : Nat → Prop) : Inv ts cur0 P (init cur0) :=
  ⟨Nat.le_refl _, by intro i h; simp [init] at h, Or.inl rfl⟩

theorem step_cur (ts : Nat → Nat) (s : St) (i : Nat) :
    (step ts s i).cur = if s.ph i = .pending then max s.cur (ts i) else s.cur := by
  unfold step
  cases s.ph i with
  | fresh => dsimp only; split <;> rfl
  | pending => simp only [if_true]; split <;> omega
  | done => rfl

theorem step_ph (ts : Nat → Nat) (s : St) (i j : Nat) :
    (step ts s i).ph j =
      if j = i then (if s.ph i = .fresh ∧ ts i > s.cur then .pending else .done) else s.ph j := by
  unfold step
  cases hp : s.ph i with
  | fresh => by_cases hgt : ts i > s.cur <;> simp [setPh, hgt]
  | pending => simp [setPh]
  | done => by_cases e : j = i <;> simp [e, hp]

theorem step_cur_le (ts : Nat → Nat) (s : St) (i : Nat) : s.cur ≤ (step ts s i).cur := by
  rw [step_cur]; split <;> omega

theorem run_cur_le (ts : Nat → Nat) (sched : List Nat) (s : St) : s.cur ≤ (run ts s sched).cur :=
  List.foldlRecOn (motive := fun s' => s.cur ≤ s'.cur) sched (step ts) (Nat.le_refl _)
    fun s' h i _ => Nat.le_trans h (step_cur_le ts s' i)

theorem step_inv (ts : Nat → Nat) (cur0 : Nat) (P : Nat → Prop) (s : St) (i : Nat) (hP : P i)
    (h : Inv ts cur0 P s) : Inv ts cur0 P (step ts s i) := by
  obtain ⟨h1, h2, h3⟩ := h
  have hc := step_cur ts s i
  have hle := step_cur_le ts s i
  refine ⟨Nat.le_trans h1 hle, fun j hj => ?_, ?_⟩
  · rw [step_ph] at hj
    split at hj
    · next e =>
      subst e
      cases hp : s.ph j with
      | fresh => simp [hp] at hj; omega
      | pending => simp [hp] at hc; omega
      | done => exact Nat.le_trans (h2 j hp) hle
    · exact Nat.le_trans (h2 j hj) hle
  · rw [hc]; split
    · by_cases hgt : ts i > s.cur
      · exact .inr ⟨i, hP, by omega⟩
      · rw [Nat.max_eq_left (by omega)]; exact h3
    · exact h3

theorem run_inv (ts : Nat → Nat) (cur0 : Nat) (P : Nat → Prop) (sched : List Nat) :
    ∀ s, (∀ i, i ∈ sched → P i) → Inv ts cur0 P s → Inv ts cur0 P (run ts s sched) :=
  fun _ hP h => List.foldlRecOn sched (step ts) h fun s h i hi => step_inv ts cur0 P s i (hP i hi) h

/-- `m` is the greatest of `cur` and the announced times of `is`: an upper bound that is attained -/
def IsNewest (cur : Nat) (ts : Nat → Nat) (is : List Nat) (m : Nat) : Prop :=
  (cur ≤ m ∧ ∀ i ∈ is, ts i ≤ m) ∧ (m = cur ∨ ∃ i ∈ is, m = ts i)

theorem newest_spec (ts : Nat → Nat) : ∀ (is : List Nat) (cur : Nat), IsNewest cur ts is (newest cur ts is) := by
  intro is
  induction is with
  | nil => intro cur; exact ⟨⟨Nat.le_refl _, fun _ h => nomatch h⟩, .inl rfl⟩
  | cons j js ih =>
    intro cur
    simp only [newest]
    generalize hc : (if ts j > cur then ts j else cur) = c'
    have hc' : cur ≤ c' ∧ ts j ≤ c' ∧ (c' = cur ∨ c' = ts j) := by split at hc <;> omega
    obtain ⟨⟨h1, h2⟩, h3⟩ := ih c'
    refine ⟨⟨by omega, List.forall_mem_cons.mpr ⟨by omega, h2⟩⟩, ?_⟩
    rcases h3 with h | ⟨i, hi, h⟩
    · rcases hc'.2.2 with e | e
      · exact .inl (h.trans e)
      · exact .inr ⟨j, List.mem_cons_self, h.trans e⟩
    · exact .inr ⟨i, List.mem_cons_of_mem _ hi, h⟩

theorem IsNewest.le_of_subset {cur : Nat} {ts : Nat → Nat} {is is' : List Nat} {m m' : Nat}
    (h : IsNewest cur ts is m) (h' : IsNewest cur ts is' m') (hsub : ∀ i ∈ is, i ∈ is') : m ≤ m' := by
  rcases h.2 with e | ⟨i, hi, e⟩
  · exact e ▸ h'.1.1
  · exact e ▸ h'.1.2 i (hsub i hi)

theorem IsNewest.eq_of_mem_iff {cur : Nat} {ts : Nat → Nat} {is is' : List Nat} {m m' : Nat}
    (h : IsNewest cur ts is m) (h' : IsNewest cur ts is' m') (hmem : ∀ i, i ∈ is ↔ i ∈ is') : m = m' :=
  Nat.le_antisymm (h.le_of_subset h' fun i => (hmem i).1) (h'.le_of_subset h fun i => (hmem i).2)

theorem any_schedule (ts : Nat → Nat) (cur0 : Nat) (sched threads : List Nat)
    (honly : ∀ i, i ∈ sched → i ∈ threads)
    (hdone : ∀ i, i ∈ threads → (run ts (init cur0) sched).ph i = .done) :
    (run ts (init cur0) sched).cur = newest cur0 ts threads := by
  obtain ⟨h1, h2, h3⟩ := run_inv ts cur0 (· ∈ threads) sched (init cur0) honly (init_inv ts cur0 _)
  have hrun : IsNewest cur0 ts threads (run ts (init cur0) sched).cur := ⟨⟨h1, fun i hi => h2 i (hdone i hi)⟩, h3⟩
  exact hrun.eq_of_mem_iff (newest_spec ts threads cur0) fun _ => Iff.rfl

theorem done_stable (ts : Nat → Nat) (s : St) (i j : Nat) (h : s.ph j = .done) : (step ts s i).ph j = .done := by
  rw [step_ph]; split
  · next e => subst e; simp [h]
  · exact h

theorem two_steps_done (ts : Nat → Nat) (s : St) (i : Nat) : (step ts (step ts s i) i).ph i = .done := by
  -- one step leaves `i` pending or done, and only a fresh handler is not done after its step
  have h1 : (step ts s i).ph i ≠ .fresh := by rw [step_ph, if_pos rfl]; split <;> simp
  rw [step_ph, if_pos rfl, if_neg fun h => h1 h.1]

theorem run_done_stable (ts : Nat → Nat) (sched : List Nat) : ∀ (s : St) (i : Nat), s.ph i = .done → (run ts s sched).ph i = .done :=
  fun _ i h => List.foldlRecOn (motive := fun s => s.ph i = .done) sched (step ts) h fun s h j _ => done_stable ts s j i h

theorem sequential_all_done (ts : Nat → Nat) (order : List Nat) :
    ∀ (s : St) (i : Nat), i ∈ order → (run ts s (sequential order)).ph i = .done := by
  induction order with
  | nil => intro _ _ h; cases h
  | cons j js ih =>
    intro s i hi
    have hrun : run ts s (sequential (j :: js)) = run ts (step ts (step ts s j) j) (sequential js) := by
      simp [run, sequential, List.flatMap_cons]
    rw [hrun]
    rcases List.mem_cons.mp hi with e | hm
    · subst e; exact run_done_stable ts _ _ _ (two_steps_done ts s i)
    · exact ih _ i hm

theorem mem_sequential (order : List Nat) (i : Nat) (h : i ∈ sequential order) : i ∈ order := by
  simp only [sequential, List.mem_flatMap] at h
  obtain ⟨j, hj, hi⟩ := h
  simp at hi
  subst hi; exact hj

theorem lastmod_sequential (ts : Nat → Nat) (cur0 : Nat) (order : List Nat) :
    (run ts (init cur0) (sequential order)).cur = newest cur0 ts order :=
  any_schedule ts cur0 (sequential order) order (mem_sequential order) (fun i hi => sequential_all_done ts order _ i hi)

end NV.LastModL
