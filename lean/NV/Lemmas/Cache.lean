/-
  NV.Lemmas.Cache — about NV.Model.Cache, for NV.Props.C06: the association list; the provenance and clock
  invariants, kept by every step because every step that stores is a `Fetched`; the lookup block that
  `stepDoh` and `stepDns53` share; the text form of names.
-/
import NV.Model.Cache
import NV.Lemmas.ListText
namespace NV.Cache
open NV

theorem get_mem {st : Store} {k : Key} {e : Entry} (h : get st k = some e) : (k, e) ∈ st := by
  induction st with
  | nil => cases h
  | cons p r ih =>
    obtain ⟨k', e'⟩ := p
    unfold get at h
    split at h
    · next hk => cases hk; cases h; exact List.mem_cons_self
    · exact List.mem_cons_of_mem _ (ih h)

theorem mem_evict {st : Store} {k : Key} {p : Key × Entry} (h : p ∈ evict st k) : p ∈ st := by
  unfold evict at h; exact (List.mem_filter.mp h).1

theorem mem_add {st : Store} {k : Key} {e : Entry} {p : Key × Entry} (h : p ∈ add st k e) :
    p = (k, e) ∨ p ∈ st := by
  unfold add at h
  rcases List.mem_cons.mp h with h | h
  · exact .inl h
  · exact .inr (mem_evict h)

theorem get_add_self (st : Store) (k : Key) (e : Entry) : get (add st k e) k = some e := by
  simp [add, get]

theorem get_evict_self (st : Store) (k : Key) : get (evict st k) k = none := by
  induction st with
  | nil => rfl
  | cons p r ih =>
    obtain ⟨k', e'⟩ := p
    unfold evict at ih ⊢
    by_cases hk : k' = k
    · rw [List.filter_cons_of_neg (by simpa using hk)]; exact ih
    · rw [List.filter_cons_of_pos (by simpa using hk), get, if_neg hk]; exact ih

/-- the transport a key's context names -/
def Key.transport (k : Key) : Transport := if k.ctx = [] then .dns53 else .doh

/-- the entry `e` stored under `k` is the answer to an upstream request of `log` made for exactly
the tuple `k`, over the transport that `k.ctx` names, at the clock value recorded in the entry -/
def Provenance (log : List Call) (k : Key) (e : Entry) : Prop :=
  ∃ c ∈ log, c.key = k ∧ c.resp = some e.msg ∧ c.time = e.time ∧ c.tr = k.transport

/-- what `C06.cache_inv` says of reachable states -/
def Inv (s : State) : Prop := ∀ k e, (k, e) ∈ s.store → Provenance s.log k e

def TimeInv (s : State) : Prop := ∀ k e, (k, e) ∈ s.store → e.time ≤ s.now

theorem Provenance.mono {log : List Call} {k : Key} {e : Entry} (c : Call)
    (h : Provenance log k e) : Provenance (c :: log) k e := by
  obtain ⟨c', hc, h'⟩ := h
  exact ⟨c', List.mem_cons_of_mem _ hc, h'⟩

theorem dohCtx_ne_nil (u : Url) : dohCtx u ≠ [] := by
  unfold dohCtx
  split
  · exact List.cons_ne_nil _ _
  · assumption

theorem dohKey_transport (url : Url) (q : Query) : (dohKey url q).transport = .doh := by
  simp [Key.transport, dohKey, dohCtx_ne_nil]

/-! Both upstream halves and both kinds of late store do the same thing to the state (`Fetched`); the two
invariants are proved from that description and do not look at the model again. -/

/-- `s'` is `s` after the upstream exchange `c`, which took `lat` seconds and may have stored its answer -/
structure Fetched (s : State) (c : Call) (lat : Nat) (s' : State) : Prop where
  log : s'.log = c :: s.log
  now : s'.now = s.now + lat
  store : s'.store = s.store ∨ ∃ m proto, c.resp = some m ∧ s'.store = add s.store c.key ⟨c.time, m, proto⟩

theorem Fetched.mem {s s' : State} {c : Call} {lat : Nat} (h : Fetched s c lat s') {k : Key}
    {e : Entry} (hm : (k, e) ∈ s'.store) :
    (k, e) ∈ s.store ∨ (c.key = k ∧ c.resp = some e.msg ∧ c.time = e.time) := by
  rcases h.store with hst | ⟨m, proto, hr, hst⟩ <;> rw [hst] at hm
  · exact .inl hm
  · rcases mem_add hm with h | h
    · injection h with h1 h2
      subst h1 h2
      exact .inr ⟨rfl, hr, rfl⟩
    · exact .inl h

theorem Fetched.inv {s s' : State} {c : Call} {lat : Nat} (h : Fetched s c lat s')
    (htr : c.tr = c.key.transport) (hs : Inv s) : Inv s' := by
  intro k e hm
  rw [h.log]
  rcases h.mem hm with h | ⟨hk, hr, ht⟩
  · exact (hs k e h).mono c
  · exact ⟨c, List.mem_cons_self, hk, hr, ht, hk ▸ htr⟩

theorem Fetched.timeInv {s s' : State} {c : Call} {lat : Nat} (h : Fetched s c lat s')
    (ht : c.time ≤ s.now) (hs : TimeInv s) : TimeInv s' := by
  intro k e hm
  rw [h.now]
  rcases h.mem hm with h | ⟨_, _, he⟩
  · exact Nat.le_trans (hs k e h) (Nat.le_add_right _ _)
  · exact he ▸ Nat.le_trans ht (Nat.le_add_right _ _)

theorem dohUpstream_fetched (T : TTLFn) (cfg : Cfg) (s : State) (url' : Url) (q : Query) (t0 : Time)
    (st : Stale) (o : DohOut) (lat : Nat) :
    ∃ resp, (dohUpstream T cfg s url' q t0 st o lat).2.up = some ⟨.doh, url', q, t0, resp⟩ ∧
      Fetched s ⟨.doh, url', q, t0, resp⟩ lat (dohUpstream T cfg s url' q t0 st o lat).1 := by
  unfold dohUpstream
  cases o with
  | transportErr => exact ⟨none, rfl, rfl, rfl, .inl rfl⟩
  | status => exact ⟨none, rfl, rfl, rfl, .inl rfl⟩
  | body b readErr lm proto =>
    refine ⟨_, rfl, ?_⟩
    by_cases hc : (readBody b readErr cfg.bufLen).1.length > 0 ∧ ¬ (readBody b readErr cfg.bufLen).2.1 ∧
        ¬ (readBody b readErr cfg.bufLen).2.2 ∧ cfg.cacheOn
    · simp only [hc]
      exact ⟨rfl, rfl, .inr ⟨_, proto, by simp, rfl⟩⟩
    · simp only [hc, ↓reduceIte]
      exact ⟨rfl, rfl, .inl rfl⟩

theorem dns53Upstream_fetched (T : TTLFn) (cfg : Cfg) (s : State) (q : Query) (t0 : Time)
    (st : Stale) (o : UdpOut) :
    ∃ resp, (dns53Upstream T cfg s q t0 st o).2.up = some ⟨.dns53, [], q, t0, resp⟩ ∧
      Fetched s ⟨.dns53, [], q, t0, resp⟩ 0 (dns53Upstream T cfg s q t0 st o).1 := by
  unfold dns53Upstream
  cases o with
  | dialErr => exact ⟨none, rfl, rfl, rfl, .inl rfl⟩
  | datagrams ds =>
    simp only
    split
    · exact ⟨none, rfl, rfl, rfl, .inl rfl⟩
    · next m _ =>
      refine ⟨some m, rfl, ?_⟩
      cases cfg.cacheOn
      · exact ⟨rfl, rfl, .inl rfl⟩
      · exact ⟨rfl, rfl, .inr ⟨m, "", rfl, rfl⟩⟩

/-! In the two `…Upstream_not_served` only `t0 st` are explicit: as they stand they are the hypothesis `hup` of the
`lookup` section below. -/

theorem dohUpstream_not_served {T : TTLFn} {cfg : Cfg} {s : State} {url' : Url} {q : Query} {o : DohOut}
    {lat : Nat} (t0 : Time) (st : Stale) : ¬ (dohUpstream T cfg s url' q t0 st o lat).2.served := by
  obtain ⟨_, h, _⟩ := dohUpstream_fetched T cfg s url' q t0 st o lat
  exact fun hs => nomatch h.symm.trans hs

theorem dns53Upstream_not_served {T : TTLFn} {cfg : Cfg} {s : State} {q : Query} {o : UdpOut}
    (t0 : Time) (st : Stale) : ¬ (dns53Upstream T cfg s q t0 st o).2.served := by
  obtain ⟨_, h, _⟩ := dns53Upstream_fetched T cfg s q t0 st o
  exact fun hs => nomatch h.symm.trans hs

theorem readBody_short {b : Bytes} {bufLen : Nat} (h : b.length < bufLen) (readErr : Bool) :
    readBody b readErr bufLen = if readErr then ([], false, true) else (b, false, false) := by
  rw [readBody, if_neg (Nat.not_le.mpr h)]

theorem dohUpstream_err (T : TTLFn) (cfg : Cfg) (s : State) (url' : Url) (q : Query) (t0 : Time)
    (st : Stale) (o : DohOut) (lat : Nat) (hf : o.fails cfg.bufLen) :
    (dohUpstream T cfg s url' q t0 st o lat).2.err = true := by
  cases o with
  | transportErr => rfl
  | status => rfl
  | body b re lm proto =>
    obtain ⟨rfl, h2⟩ := hf
    simp [dohUpstream, readBody_short h2]

theorem dns53Upstream_err (T : TTLFn) (cfg : Cfg) (s : State) (q : Query) (t0 : Time)
    (st : Stale) (o : UdpOut) (hf : o.fails q.id cfg.bufLen) :
    (dns53Upstream T cfg s q t0 st o).2.err = true := by
  cases o with
  | dialErr => rfl
  | datagrams ds =>
    simp only [UdpOut.fails] at hf
    simp [dns53Upstream, hf]

/-- the handler turns every error into SERVFAIL -/
theorem servfail_of_err (q : Query) {r : Res} (h : r.err = true) : resolved q r.outcome = replyRCode 2 q := by
  simp [Res.outcome, h, resolved]

theorem useCache_iff (cfg : Cfg) (q : Query) : useCache cfg q = true ↔ q.type ≠ 12 ∧ cfg.cacheOn = true := by
  simp [useCache]

/-- the lookup block that `stepDoh` and `stepDns53` share.  They differ in the key `k`, the
freshness test `ok e a` on the entry and its adjusted form, the transport `tr e` reported, and in
what happens when the lookup does not return (`up t0 stale`, `st0` when nothing was found). -/
def lookup (T : TTLFn) (cfg : Cfg) (s : State) (q : Query) (k : Key)
    (ok : Entry → Bytes × Nat → Prop) [∀ e a, Decidable (ok e a)] (tr : Entry → String) (st0 : Stale)
    (up : Time → Stale → State × Res) : State × Res :=
  let t0 := if useCache cfg q then s.now else 0
  match (if useCache cfg q then get s.store k else none) with
  | some e =>
    let a := T.adjusted e.msg cfg.bufLen q.id (age t0 e.time)
    if ok e a then (s, { reply := a.1, err := false, fromCache := true, trans := tr e, up := none })
    else up t0 ⟨a.1, tr e, true⟩
  | none => up t0 st0

theorem stepDoh_eq (T : TTLFn) (cfg : Cfg) (s : State) (url : Url) (q : Query) (o : DohOut) (lat : Nat) :
    stepDoh T cfg s url q o lat =
      lookup T cfg s q (dohKey url q) (fun e a => a.2 > 0 ∧ lastModOf s (dohCtx url) < e.time) Entry.trans {}
        (fun t0 st => dohUpstream T cfg s (dohCtx url) q t0 st o lat) := rfl

theorem stepDns53_eq (T : TTLFn) (cfg : Cfg) (s : State) (q : Query) (o : UdpOut) :
    stepDns53 T cfg s q o =
      lookup T cfg s q (dns53Key q) (fun _ a => a.2 > 0) (fun _ => "UDP") { trans := "UDP" }
        (fun t0 st => dns53Upstream T cfg s q t0 st o) := rfl

section lookup
variable (T : TTLFn) (cfg : Cfg) (s : State) (q : Query) (k : Key)
  (ok : Entry → Bytes × Nat → Prop) [∀ e a, Decidable (ok e a)] (tr : Entry → String) (st0 : Stale)
  (up : Time → Stale → State × Res)

/-- a fresh entry under `k` is returned, the state left alone; else the lookup is its upstream half -/
theorem lookup_cases :
    (useCache cfg q = true ∧ ∃ e, get s.store k = some e ∧
        ok e (T.adjusted e.msg cfg.bufLen q.id (age s.now e.time)) ∧
        lookup T cfg s q k ok tr st0 up =
          (s, { reply := (T.adjusted e.msg cfg.bufLen q.id (age s.now e.time)).1, err := false,
                fromCache := true, trans := tr e, up := none })) ∨
    (¬ (useCache cfg q = true ∧ ∃ e, get s.store k = some e ∧
        ok e (T.adjusted e.msg cfg.bufLen q.id (age s.now e.time))) ∧
      ∃ st, lookup T cfg s q k ok tr st0 up = up (if useCache cfg q then s.now else 0) st) := by
  unfold lookup
  by_cases hu : useCache cfg q = true
  · simp only [hu, ↓reduceIte, true_and]
    cases hg : get s.store k with
    | none => exact .inr ⟨fun ⟨_, h, _⟩ => (nomatch h), _, rfl⟩
    | some e =>
      by_cases hc : ok e (T.adjusted e.msg cfg.bufLen q.id (age s.now e.time))
      · exact .inl ⟨e, rfl, hc, if_pos hc⟩
      · exact .inr ⟨fun ⟨e', he', hc'⟩ => hc (Option.some.inj he' ▸ hc'), _, if_neg hc⟩
  · exact .inr ⟨fun h => hu h.1, by simp only [hu]; exact ⟨_, rfl⟩⟩

variable {T cfg s q k ok tr st0 up}

theorem lookup_of_not_served (h : ¬ (lookup T cfg s q k ok tr st0 up).2.served) :
    ∃ st, lookup T cfg s q k ok tr st0 up = up (if useCache cfg q then s.now else 0) st := by
  rcases lookup_cases T cfg s q k ok tr st0 up with ⟨_, e, _, _, heq⟩ | ⟨_, hst⟩
  · exact absurd (by rw [heq]; rfl) h
  · exact hst

/-- a lookup that does not return sent its request at the clock value read before it; what varies with the
transport is who is asked (`tr'`, `url'`) -/
theorem lookup_refetch {tr' : Transport} {url' : Url}
    (hcall : ∀ t0 st, ∃ resp, (up t0 st).2.up = some ⟨tr', url', q, t0, resp⟩)
    (h : ¬ (lookup T cfg s q k ok tr st0 up).2.served) :
    ∃ c, (lookup T cfg s q k ok tr st0 up).2.up = some c ∧ c.tr = tr' ∧ c.url = url' ∧ c.q = q ∧
      c.time = (if useCache cfg q then s.now else 0) := by
  obtain ⟨st, heq⟩ := lookup_of_not_served h
  obtain ⟨resp, hc⟩ := hcall (if useCache cfg q then s.now else 0) st
  exact ⟨_, heq ▸ hc, rfl, rfl, rfl, rfl⟩

/-- a lookup that does not return fails when its upstream half does: the expired entry handed down in `st` is
not fallen back on -/
theorem lookup_servfail (herr : ∀ t0 st, (up t0 st).2.err = true)
    (h : ¬ (lookup T cfg s q k ok tr st0 up).2.served) :
    (lookup T cfg s q k ok tr st0 up).2.err = true ∧
    resolved q (lookup T cfg s q k ok tr st0 up).2.outcome = replyRCode 2 q := by
  obtain ⟨st, heq⟩ := lookup_of_not_served h
  rw [heq]
  have he := herr (if useCache cfg q then s.now else 0) st
  exact ⟨he, servfail_of_err q he⟩

/-- the state is left alone, or `Fetched` by a request sent no later than now -/
theorem lookup_step
    (hfetch : ∀ t0 st, ∃ c lat, Fetched s c lat (up t0 st).1 ∧ c.time = t0 ∧ c.tr = c.key.transport) :
    (lookup T cfg s q k ok tr st0 up).1 = s ∨
    ∃ c lat, Fetched s c lat (lookup T cfg s q k ok tr st0 up).1 ∧ c.time ≤ s.now ∧ c.tr = c.key.transport := by
  rcases lookup_cases T cfg s q k ok tr st0 up with ⟨_, e, _, _, heq⟩ | ⟨_, st, heq⟩ <;> rw [heq]
  · exact .inl rfl
  · obtain ⟨c, lat, hf, ht, htr⟩ := hfetch (if useCache cfg q then s.now else 0) st
    exact .inr ⟨c, lat, hf, ht ▸ (by split <;> simp), htr⟩

variable (hup : ∀ t0 st, ¬ (up t0 st).2.served)
include hup

/-- `C06.served_only_fresh_doh` / `_dns53` in general -/
theorem lookup_served_iff :
    (lookup T cfg s q k ok tr st0 up).2.served ↔ useCache cfg q = true ∧ ∃ e, get s.store k = some e ∧
      ok e (T.adjusted e.msg cfg.bufLen q.id (age s.now e.time)) := by
  rcases lookup_cases T cfg s q k ok tr st0 up with ⟨hu, e, hg, hc, heq⟩ | ⟨hn, st, heq⟩ <;> rw [heq]
  · exact ⟨fun _ => ⟨hu, e, hg, hc⟩, fun _ => rfl⟩
  · exact ⟨fun h => absurd h (hup _ _), fun h => absurd h hn⟩

theorem lookup_of_served (h : (lookup T cfg s q k ok tr st0 up).2.served) :
    ∃ e, get s.store k = some e ∧ lookup T cfg s q k ok tr st0 up =
      (s, { reply := (T.adjusted e.msg cfg.bufLen q.id (age s.now e.time)).1, err := false,
            fromCache := true, trans := tr e, up := none }) := by
  rcases lookup_cases T cfg s q k ok tr st0 up with ⟨_, e, hg, _, heq⟩ | ⟨_, st, heq⟩
  · exact ⟨e, hg, heq⟩
  · exact absurd (heq ▸ h) (hup _ _)

/-- `C06.hit_same_key_doh` / `_dns53` in general -/
theorem lookup_provenance (hs : Inv s) (h : (lookup T cfg s q k ok tr st0 up).2.served) :
    ∃ c ∈ s.log, c.key = k ∧ c.tr = k.transport ∧ ∃ m, c.resp = some m ∧
      (lookup T cfg s q k ok tr st0 up).2.reply = (T.adjusted m cfg.bufLen q.id (age s.now c.time)).1 := by
  obtain ⟨e, hg, heq⟩ := lookup_of_served hup h
  obtain ⟨c, hc, hk, hr, ht, htr⟩ := hs _ e (get_mem hg)
  exact ⟨c, hc, hk, htr, e.msg, hr, by rw [heq, ht]⟩

end lookup

/-- a step adds nothing to the store and the log (a hit, a clock advance, an eviction), or it is
an upstream exchange -/
theorem step_cases (T : TTLFn) (cfg : Cfg) (s : State) (op : Op) :
    ((step T cfg s op).1.log = s.log ∧ s.now ≤ (step T cfg s op).1.now ∧
      ∀ p ∈ (step T cfg s op).1.store, p ∈ s.store) ∨
    ∃ c lat, Fetched s c lat (step T cfg s op).1 ∧ c.time ≤ s.now ∧ c.tr = c.key.transport := by
  have same {s' : State} (h : s' = s) : s'.log = s.log ∧ s.now ≤ s'.now ∧ ∀ p ∈ s'.store, p ∈ s.store :=
    h ▸ ⟨rfl, Nat.le_refl _, fun _ h => h⟩
  cases op with
  | doh url q o lat =>
    simp only [step]
    rw [stepDoh_eq]
    refine (lookup_step fun t0 st => ?_).imp same id
    obtain ⟨resp, _, hf⟩ := dohUpstream_fetched T cfg s (dohCtx url) q t0 st o lat
    exact ⟨_, lat, hf, rfl, (dohKey_transport url q).symm⟩
  | dns53 q o =>
    simp only [step]
    rw [stepDns53_eq]
    refine (lookup_step fun t0 st => ?_).imp same id
    obtain ⟨resp, _, hf⟩ := dns53Upstream_fetched T cfg s q t0 st o
    exact ⟨_, 0, hf, rfl, rfl⟩
  | advance d => exact .inl ⟨rfl, Nat.le_add_right _ _, fun _ h => h⟩
  | evict k => exact .inl ⟨rfl, Nat.le_refl _, fun _ h => mem_evict h⟩
  | evictAll => exact .inl ⟨rfl, Nat.le_refl _, fun _ h => nomatch h⟩
  | lateStore tr url q t m proto lm =>
    cases tr with
    | doh =>
      exact .inr ⟨⟨.doh, dohCtx url, q, min t s.now, some m⟩, 0, ⟨rfl, rfl, .inr ⟨m, proto, rfl, rfl⟩⟩,
        Nat.min_le_right _ _, (dohKey_transport url q).symm⟩
    | dns53 =>
      exact .inr ⟨⟨.dns53, [], q, min t s.now, some m⟩, 0, ⟨rfl, rfl, .inr ⟨m, "", rfl, rfl⟩⟩,
        Nat.min_le_right _ _, rfl⟩

theorem inv_step (T : TTLFn) (cfg : Cfg) (s : State) (op : Op) (hs : Inv s) :
    Inv (step T cfg s op).1 := by
  rcases step_cases T cfg s op with ⟨hl, _, hsub⟩ | ⟨c, lat, hf, _, htr⟩
  · intro k e hm
    rw [hl]
    exact hs k e (hsub _ hm)
  · exact hf.inv htr hs

theorem timeInv_step (T : TTLFn) (cfg : Cfg) (s : State) (op : Op) (hs : TimeInv s) :
    TimeInv (step T cfg s op).1 := by
  rcases step_cases T cfg s op with ⟨_, hn, hsub⟩ | ⟨c, lat, hf, ht, _⟩
  · intro k e hm
    exact Nat.le_trans (hs k e (hsub _ hm)) hn
  · exact hf.timeInv ht hs

theorem reach_induct (T : TTLFn) (cfg : Cfg) {P : State → Prop} (t0 : Time) (h0 : P { now := t0 })
    (hstep : ∀ s op, P s → P (step T cfg s op).1) (ops : List Op) : P (reach T cfg t0 ops) := by
  suffices ∀ s, P s → P (run T cfg s ops).1 from this _ h0
  induction ops with
  | nil => exact fun s hs => hs
  | cons op ops ih => exact fun s hs => ih _ (hstep s op hs)

theorem inv_reach (T : TTLFn) (cfg : Cfg) (t0 : Time) (ops : List Op) : Inv (reach T cfg t0 ops) :=
  reach_induct T cfg t0 (fun _ _ h => nomatch h) (inv_step T cfg) ops

theorem timeInv_reach (T : TTLFn) (cfg : Cfg) (t0 : Time) (ops : List Op) : TimeInv (reach T cfg t0 ops) :=
  reach_induct T cfg t0 (fun _ _ h => nomatch h) (timeInv_step T cfg) ops

/-- labels as they occur on the wire: non-empty; "plain" = no byte is '.' -/
def PlainLabels (ls : List Bytes) : Prop := ∀ l ∈ ls, l ≠ [] ∧ (46 : UInt8) ∉ l

def joinDots (ls : List Bytes) : Bytes := ls.flatMap (fun l => l ++ [46])

theorem nameText_cons (l : Bytes) (ls : List Bytes) : nameText (l :: ls) = l ++ 46 :: joinDots ls := by
  simp [nameText, joinDots, List.flatMap_cons]

theorem joinDots_inj (a b : List Bytes) (ha : PlainLabels a) (hb : PlainLabels b) (h : joinDots a = joinDots b) :
    a = b :=
  ListText.flatMap_sep_inj 46 (fun l m => (ha l m).2) (fun l m => (hb l m).2) h

end NV.Cache
