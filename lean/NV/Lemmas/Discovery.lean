/-
  NV.Lemmas.Discovery, for C18.  `strLt` is core's `<` on byte lists; on a sorted list `searchStrings` finds
  `lowerBound`, which makes `appendUniq1` the sorted insertion `insertSorted`.  The hosts and lease readers are folds
  that file associations `(key, value)` into a table (`reader_get`); per file: `C18.hosts_exact_*`, `lease_exact*`.
-/
import NV.Model.Discovery
namespace NV.Disc
open NV

theorem strLt_iff_lt : ∀ (a b : Str), strLt a b = true ↔ a < b
  | [], [] => by simp [strLt]
  | [], _ :: _ => by simp [strLt]
  | _ :: _, [] => by simp [strLt]
  | x :: xs, y :: ys => by
    rw [strLt, List.cons_lt_cons_iff, ← strLt_iff_lt xs ys, UInt8.lt_iff_toNat_lt, ← UInt8.toNat_inj]
    split
    · simp [*]
    · split <;> simp [*] <;> omega

theorem strLt_trans (a b c : Str) (h1 : strLt a b = true) (h2 : strLt b c = true) : strLt a c = true := by
  rw [strLt_iff_lt] at *; exact List.lt_trans h1 h2

theorem eq_of_not_strLt (a b : Str) (h1 : strLt a b = false) (h2 : strLt b a = false) : a = b := by
  rw [← Bool.not_eq_true, strLt_iff_lt, List.not_lt] at h1 h2
  exact List.le_antisymm h2 h1

theorem strLt_asymm (a b : Str) (h : strLt a b = true) : strLt b a = false :=
  Bool.eq_false_iff.mpr fun h2 => List.lt_asymm ((strLt_iff_lt a b).mp h) ((strLt_iff_lt b a).mp h2)

theorem strLt_ne (a b : Str) (h : strLt a b = true) : a ≠ b :=
  fun e => List.lt_irrefl b ((strLt_iff_lt b b).mp (e ▸ h))

/-- strictly increasing = sorted and duplicate-free -/
def Sorted (l : List Str) : Prop := l.Pairwise fun a b => strLt a b = true

theorem Sorted.nodup {l : List Str} (h : Sorted l) : l.Nodup := by
  unfold Sorted at h
  exact h.imp (fun {a b} hab => strLt_ne a b hab)

/-- index of the first element that is not `< x` -/
def lowerBound (set : List Str) (x : Str) : Nat := (set.takeWhile fun a => strLt a x).length

theorem lowerBound_cons (a : Str) (t : List Str) (x : Str) :
    lowerBound (a :: t) x = if strLt a x then lowerBound t x + 1 else 0 := by
  unfold lowerBound; rw [List.takeWhile_cons]; split <;> rfl

theorem lowerBound_le (set : List Str) (x : Str) : lowerBound set x ≤ set.length := by
  unfold lowerBound
  exact (List.takeWhile_sublist _).length_le

theorem lt_iff_lt_lowerBound : ∀ (set : List Str) (x : Str), Sorted set → ∀ h, h < set.length →
    (strLt (set.getD h []) x = true ↔ h < lowerBound set x) := by
  intro set x
  induction set with
  | nil => intro _ h hh; simp at hh
  | cons a t ih =>
    intro hs h hh
    have hs' := List.pairwise_cons.mp hs
    rw [lowerBound_cons]
    cases hax : strLt a x with
    | true =>
      cases h with
      | zero => simp [hax]
      | succ h' =>
        rw [List.getD_cons_succ, ih hs'.2 h' (by simpa using hh), if_pos rfl]; omega
    | false =>
      simp only [Bool.false_eq_true, ↓reduceIte, Nat.not_lt_zero, iff_false]
      cases h with
      | zero => simp [hax]
      | succ h' =>
        -- `a` is below every later element, so one of them below `x` would put `a` below `x`
        simp only [List.getD_cons_succ]
        intro hlt
        have hmem : t.getD h' [] ∈ t := by
          have : h' < t.length := by simpa using hh
          rw [List.getD_eq_getElem?_getD, List.getElem?_eq_getElem this]
          simp
        exact absurd (strLt_trans _ _ _ (hs'.1 _ hmem) hlt) (by simp [hax])

/-- binary search finds the boundary `L` of a predicate monotone on `[i, j)` -/
theorem searchGo_eq (f : Nat → Bool) (L : Nat) : ∀ (fuel i j : Nat),
    (∀ h, i ≤ h → h < j → (f h = false ↔ h < L)) → i ≤ L → L ≤ j → j ≤ i + fuel →
    searchGo f fuel i j = L := by
  intro fuel
  induction fuel with
  | zero => intro i j _ h1 h2 h3; exact Nat.le_antisymm h1 (Nat.le_trans h2 h3)
  | succ n ih =>
    intro i j hf h1 h2 h3
    rw [searchGo]
    split
    · -- the midpoint `h` lies in `[i, j)`; nothing else about it is used
      have hm : i ≤ (i + j) / 2 ∧ (i + j) / 2 < j := by omega
      have hfL := hf _ hm.1 hm.2
      generalize (i + j) / 2 = h at hm hfL ⊢
      cases hfh : f h <;> simp only [hfh, Bool.not_false, Bool.not_true, Bool.false_eq_true, ↓reduceIte]
      · exact ih _ _ (fun h' a b => hf h' (Nat.le_trans hm.1 (Nat.le_of_succ_le a)) b) (hfL.mp hfh) h2 (by omega)
      · have hL : ¬ h < L := fun c => by simp [hfL.mpr c] at hfh
        exact ih _ _ (fun h' a b => hf h' a (Nat.lt_trans b hm.2)) h1 (Nat.le_of_not_lt hL) (by omega)
    · next hij => exact Nat.le_antisymm h1 (Nat.le_trans h2 (Nat.le_of_not_lt hij))

theorem searchStrings_sorted (set : List Str) (x : Str) (hs : Sorted set) :
    searchStrings set x = lowerBound set x := by
  unfold searchStrings
  apply searchGo_eq
  · intro h _ hh
    have := lt_iff_lt_lowerBound set x hs h hh
    rw [← this]
    cases strLt (set.getD h []) x <;> simp
  · omega
  · exact lowerBound_le set x
  · omega

theorem copyShift_cons (a : Str) (s : List Str) (k : Nat) :
    copyShift (a :: s) (k + 1) = a :: copyShift s k := by
  simp [copyShift]

theorem copyShift_insert : ∀ (set : List Str) (pos : Nat) (e x : Str), pos ≤ set.length →
    (copyShift (set ++ [e]) pos).set pos x = set.take pos ++ x :: set.drop pos := by
  intro set
  induction set with
  | nil => intro pos e x h; simp at h; subst h; simp [copyShift]
  | cons a t ih =>
    intro pos e x h
    cases pos with
    | zero =>
      simp [copyShift]
    | succ p =>
      rw [List.cons_append, copyShift_cons]
      simp only [List.set_cons_succ, List.take_succ_cons, List.drop_succ_cons, List.cons_append]
      rw [ih p e x (by simpa using h)]

/-- insertion into a sorted duplicate-free list (the specification of `appendUniq(set, x)`) -/
def insertSorted (x : Str) : List Str → List Str
  | [] => [x]
  | a :: t => if strLt a x then a :: insertSorted x t else if a = x then a :: t else x :: a :: t

theorem insertAt_lowerBound (x : Str) : ∀ (set : List Str),
    (if lowerBound set x < set.length ∧ set.getD (lowerBound set x) [] = x then set
     else set.take (lowerBound set x) ++ x :: set.drop (lowerBound set x)) = insertSorted x set := by
  intro set
  induction set with
  | nil => rfl
  | cons a t ih =>
    rw [lowerBound_cons]
    cases hax : strLt a x with
    | true =>
      simp only [hax, ↓reduceIte, List.length_cons, List.getD_cons_succ,
        Nat.add_lt_add_iff_right, List.take_succ_cons, List.drop_succ_cons, List.cons_append, insertSorted]
      rw [← ih]
      split <;> simp
    | false => simp [hax, insertSorted]

theorem appendUniq1_eq_insertSorted (set : List Str) (x : Str) (hs : Sorted set) :
    appendUniq1 set x = insertSorted x set := by
  unfold appendUniq1 appendUniq
  simp only [appendUniqG]
  rw [searchStrings_sorted set x hs, ← insertAt_lowerBound]
  split
  · rfl
  · rw [copyShift_insert _ _ _ _ (lowerBound_le set x)]

theorem mem_insertSorted (x y : Str) : ∀ (set : List Str), y ∈ insertSorted x set ↔ y = x ∨ y ∈ set := by
  intro set
  induction set with
  | nil => simp [insertSorted]
  | cons a t ih =>
    simp only [insertSorted]
    split
    · simp [ih, or_left_comm]
    · split
      · next h => subst h; simp
      · simp

theorem sorted_insertSorted (x : Str) : ∀ (set : List Str), Sorted set → Sorted (insertSorted x set) := by
  intro set
  induction set with
  | nil => intro _; simp [insertSorted, Sorted]
  | cons a t ih =>
    intro hs
    have hs' := List.pairwise_cons.mp hs
    simp only [insertSorted]
    split
    · next hax =>
      apply List.pairwise_cons.mpr
      refine ⟨?_, ih hs'.2⟩
      intro y hy
      rcases (mem_insertSorted x y t).mp hy with h | h
      · subst h; exact hax
      · exact hs'.1 y h
    · split
      · exact hs
      · next h1 h2 =>
        have hxa : strLt x a = true := by
          cases h : strLt x a with
          | true => rfl
          | false => exact absurd (eq_of_not_strLt a x (by simpa using h1) h) h2
        exact List.pairwise_cons.mpr
          ⟨List.forall_mem_cons.mpr ⟨hxa, fun y h => strLt_trans _ _ _ hxa (hs'.1 y h)⟩, hs⟩

theorem mem_appendUniq1 (l : List Str) (x y : Str) (h : Sorted l) :
    y ∈ appendUniq1 l x ↔ y = x ∨ y ∈ l := by
  rw [appendUniq1_eq_insertSorted l x h, mem_insertSorted]

theorem sorted_appendUniq1 (l : List Str) (x : Str) (h : Sorted l) : Sorted (appendUniq1 l x) := by
  rw [appendUniq1_eq_insertSorted l x h]; exact sorted_insertSorted x l h

theorem lookup_filter_key {V : Type} (f : Str → Bool) (m : List (Str × V)) (k : Str) :
    (m.filter fun p => f p.1).lookup k = if f k then m.lookup k else none := by
  induction m with
  | nil => simp
  | cons p t ih =>
    obtain ⟨a, b⟩ := p
    by_cases hk : k = a
    · subst hk; cases hf : f k <;> simp [hf, ih]
    · have hb : (k == a) = false := beq_false_of_ne hk
      cases hf : f a <;> simp [hf, ih, List.lookup_cons, hb]

theorem mget_mdel {V : Type} (m : List (Str × V)) (k k' : Str) :
    mget (mdel m k') k = if k = k' then none else mget m k := by
  rw [mget, mdel, lookup_filter_key (fun a => !(a == k'))]; simp [mget]

theorem mget_mset {V : Type} (m : List (Str × V)) (k k' : Str) (v : V) :
    mget (mset m k' v) k = if k = k' then some v else mget m k := by
  rw [mget, mset, List.lookup_cons]
  by_cases hk : k = k'
  · simp [hk]
  · rw [beq_false_of_ne hk, if_neg hk]
    exact (mget_mdel m k k').trans (if_neg hk)

theorem Tbl.get_mset (m : Tbl) (k k' : Str) (v : List Str) :
    Tbl.get (mset m k' v) k = if k = k' then v else m.get k := by
  unfold Tbl.get
  rw [mget_mset]
  split <;> simp

theorem foldl_appendUniq1_spec (vs : List Str) : ∀ (l : List Str), Sorted l →
    Sorted (vs.foldl appendUniq1 l) ∧ ∀ v, v ∈ vs.foldl appendUniq1 l ↔ v ∈ l ∨ v ∈ vs := by
  induction vs with
  | nil => intro l h; simp [h]
  | cons x t ih =>
    intro l h
    have := ih _ (sorted_appendUniq1 l x h)
    refine ⟨this.1, fun v => ?_⟩
    rw [List.foldl_cons, this.2, mem_appendUniq1 l x v h, List.mem_cons, or_comm (a := v = x), or_assoc]

theorem foldl_snoc (vs l : List Str) : vs.foldl (fun l v => l ++ [v]) l = l ++ vs := by
  rw [List.foldl_append_eq_append (f := fun v => [v]), ← List.flatMap_def, List.flatMap_singleton']

/-- `m[k] = op(m[k], v)` -/
def Tbl.upd (op : List Str → Str → List Str) (m : Tbl) (p : Str × Str) : Tbl := mset m p.1 (op (m.get p.1) p.2)

/-- the values a list of associations files under key `k`, in order -/
def under (k : Str) (ps : List (Str × Str)) : List Str := ps.filterMap fun p => if p.1 = k then some p.2 else none

theorem mem_under {k v : Str} {ps : List (Str × Str)} : v ∈ under k ps ↔ (k, v) ∈ ps := by
  simp only [under, List.mem_filterMap]
  constructor
  · rintro ⟨p, hp, h⟩
    split at h
    · next hk => cases h; exact hk ▸ hp
    · cases h
  · intro h; exact ⟨_, h, by simp⟩

/-- a reader is a fold `f` over lines (records, blocks) whose table component `π` is updated, at
each step, by the associations `g x`: the table then holds under `k` the fold of `op` over the
values filed under `k`, in file order. -/
theorem reader_get {σ α : Type} (op : List Str → Str → List Str) (f : σ → α → σ) (π : σ → Tbl)
    (g : α → List (Str × Str)) (hf : ∀ s x, π (f s x) = (g x).foldl (Tbl.upd op) (π s))
    (xs : List α) (s : σ) (k : Str) :
    (π (xs.foldl f s)).get k = (under k (xs.flatMap g)).foldl op ((π s).get k) := by
  have upd : ∀ (ps : List (Str × Str)) (m : Tbl),
      (ps.foldl (Tbl.upd op) m).get k = (under k ps).foldl op (m.get k) := by
    intro ps
    induction ps with
    | nil => intro m; rfl
    | cons p t ih =>
      intro m
      rw [List.foldl_cons, ih, Tbl.upd, Tbl.get_mset]
      by_cases h : p.1 = k
      · simp [under, h]
      · simp [under, h, Ne.symm h]
  rw [← List.foldl_hom π (g₂ := fun m x => (g x).foldl (Tbl.upd op) m) (fun s x => (hf s x).symm),
    ← List.foldl_flatMap, upd]

theorem Tbl.get_nil (k : Str) : Tbl.get [] k = [] := rfl

/-- readers that file with `appendUniq` into initially empty tables (leases) -/
theorem reader_pushU {σ α : Type} (f : σ → α → σ) (π : σ → Tbl) (g : α → List (Str × Str))
    (hf : ∀ s x, π (f s x) = (g x).foldl (fun m p => m.pushU p.1 p.2) (π s))
    (xs : List α) (s : σ) (h0 : π s = []) (k : Str) :
    Sorted ((π (xs.foldl f s)).get k) ∧ ∀ v, v ∈ (π (xs.foldl f s)).get k ↔ ∃ x ∈ xs, (k, v) ∈ g x := by
  -- `hf` fits: `m.pushU p.1 p.2` is `Tbl.upd appendUniq1 m p` by definition
  rw [reader_get appendUniq1 f π g hf, h0]
  have := foldl_appendUniq1_spec (under k (xs.flatMap g)) [] List.Pairwise.nil
  exact ⟨this.1, fun v => by simp [this.2, mem_under, Tbl.get_nil]⟩

/-- readers that file one association `g x` per item with plain `append` into initially empty tables (hosts) -/
theorem reader_push {σ α : Type} (f : σ → α → σ) (π : σ → Tbl) (g : α → Str × Str)
    (hf : ∀ s x, π (f s x) = (π s).push (g x).1 (g x).2)
    (xs : List α) (s : σ) (h0 : π s = []) (k : Str) :
    (π (xs.foldl f s)).get k = xs.filterMap fun x => if (g x).1 = k then some (g x).2 else none := by
  -- `hf` fits at `fun x => [g x]`: `m.push p.1 p.2` is `Tbl.upd (· ++ [·]) m p` by definition
  rw [reader_get (fun l v => l ++ [v]) f π (fun x => [g x]) hf, h0, foldl_snoc, Tbl.get_nil, List.nil_append,
    ← List.map_eq_flatMap, under, List.filterMap_map]
  rfl

theorem hostsLine_eq (canonIP : Str → Option Str) (t : HostsTbl) (line : Bytes) :
    hostsLine canonIP t line = (hostsLinePairs canonIP line).foldl (fun t p => hostsAdd p.1 t p.2) t := by
  unfold hostsLine hostsLinePairs
  generalize fields (stripComment line) = flds
  match flds with
  | [] => simp
  | [_] => simp
  | f0 :: f1 :: rest =>
    simp only [List.length_cons, List.headD_cons, List.tail_cons]
    have : ¬ (rest.length + 1 + 1 < 2) := by omega
    simp only [this, ↓reduceIte]
    cases parseLiteralIP canonIP f0 with
    | none => simp
    | some addr => simp [List.foldl_map]

/-- the `(address, name)` pairs written in a hosts file, in file order -/
def hostsPairs (canonIP : Str → Option Str) (content : Bytes) : List (Str × Str) :=
  (splitLines content).flatMap (hostsLinePairs canonIP)

theorem foldl_hostsLine_eq (canonIP : Str → Option Str) (content : Bytes) :
    (splitLines content).foldl (hostsLine canonIP) {}
      = (hostsPairs canonIP content).foldl (fun t p => hostsAdd p.1 t p.2) {} := by
  rw [hostsPairs, List.foldl_flatMap]
  exact congrArg (fun f => List.foldl f _ _) (funext fun t => funext (hostsLine_eq canonIP t))

theorem get_foldl_default (d : List Str) (k : Str) (ks : List Str) : ∀ (m : Tbl),
    (ks.foldl (fun (m : Tbl) lh => if (m.get lh).length = 0 then mset m lh d else m) m).get k
      = if k ∈ ks ∧ (m.get k).length = 0 then d else m.get k := by
  induction ks with
  | nil => intro m; simp
  | cons a t ih =>
    intro m
    rw [List.foldl_cons, ih]
    by_cases ha : (m.get a).length = 0
    · by_cases hk : k = a
      · subst hk; simp [ha, Tbl.get_mset]
      · simp [ha, hk, Tbl.get_mset]
    · by_cases hk : k = a
      · subst hk; simp [ha]
      · simp [ha, hk]

theorem get_hostsDefaults (n : Tbl) (k : Str) :
    (hostsDefaults n).get k = if k ∈ localhostKeys ∧ (n.get k).length = 0 then localhostAddrs else n.get k :=
  get_foldl_default _ k _ n

/-- the two keys under which a lease name is filed: the folded name and its `.local` alias -/
def namePairs (key ip : Str) : List (Str × Str) := [(key, ip), (key ++ localSuffix, ip)]

/-- table updates for one dnsmasq record `(mac, ip, name)` -/
def dnsmasqApply (t : LeaseTbl) (r : Str × Str × Str) : LeaseTbl :=
  { macs := t.macs.pushU r.1 r.2.2,
    addrs := t.addrs.pushU r.2.1 r.2.2,
    names := (t.names.pushU (lower r.2.2) r.2.1).pushU (lower r.2.2 ++ localSuffix) r.2.1 }

theorem dnsmasqLine_eq (t : LeaseTbl) (line : Bytes) :
    dnsmasqLine t line = match dnsmasqRec line with
      | some r => dnsmasqApply t r
      | none => t := by
  unfold dnsmasqLine dnsmasqRec
  generalize fields line = flds
  match flds with
  | [] => simp
  | [_] => simp
  | [_, _] => simp
  | [_, _, _] => simp
  | [_, _, _, _] => simp
  | f0 :: f1 :: f2 :: f3 :: f4 :: rest =>
    simp only [List.length_cons, List.getD_cons_succ, List.getD_cons_zero]
    have : rest.length + 1 + 1 + 1 + 1 + 1 ≥ 5 := by omega
    simp only [this, ↓reduceIte]
    split <;> simp [dnsmasqApply]

def dnsmasqRecs (content : Bytes) : List (Str × Str × Str) := (splitLines content).filterMap dnsmasqRec

theorem readDNSMasqLease_eq (content : Bytes) :
    readDNSMasqLease content = (dnsmasqRecs content).foldl dnsmasqApply {} := by
  rw [dnsmasqRecs, List.foldl_filterMap]
  refine congrArg (fun f => List.foldl f _ _) (funext fun t => funext fun line => ?_)
  rw [dnsmasqLine_eq]; cases dnsmasqRec line <;> rfl

/-- a block of an ISC dhcpd lease file at its closing brace: `(name, ip, mac)` as parsed -/
structure DBlock where
  name : Str
  ip : Str
  mac : Str

/-- `readDHCPDLease` without the tables: the blocks closed so far -/
structure DhcpdSpecSt where
  name : Str := []
  ip : Str := []
  mac : Str := []
  blocks : List DBlock := []

def dhcpdSpecLine (s : DhcpdSpecSt) (line : Bytes) : DhcpdSpecSt :=
  let r := dhcpdLine { name := s.name, ip := s.ip, mac := s.mac } line
  if line.head? = some 125 then { name := [], ip := [], mac := [], blocks := s.blocks ++ [⟨s.name, s.ip, s.mac⟩] }
  else { name := r.name, ip := r.ip, mac := r.mac, blocks := s.blocks }

def dhcpdBlocks (content : Bytes) : List DBlock := ((splitLines content).foldl dhcpdSpecLine {}).blocks

def dhcpdApply (t : LeaseTbl) (b : DBlock) : LeaseTbl := dhcpdClose b.name b.ip b.mac t

/-- a line other than `}` never looks at the tables -/
theorem dhcpdLine_t (s : DhcpdSt) (t' : LeaseTbl) (line : Bytes) (h : line.head? ≠ some 125) :
    dhcpdLine { s with t := t' } line = { dhcpdLine s line with t := t' } := by
  simp only [dhcpdLine, h, ↓reduceIte, apply_ite (fun r : DhcpdSt => ({ r with t := t' } : DhcpdSt))]

/-- the parser state a spec state stands for: same header fields, tables = the closed blocks applied -/
def DhcpdSpecSt.st (sp : DhcpdSpecSt) : DhcpdSt := ⟨sp.name, sp.ip, sp.mac, sp.blocks.foldl dhcpdApply {}⟩

theorem dhcpdLine_st (sp : DhcpdSpecSt) (line : Bytes) :
    dhcpdLine sp.st line = (dhcpdSpecLine sp line).st := by
  by_cases h : line.head? = some 125
  · rw [dhcpdLine, if_pos h, dhcpdSpecLine, if_pos h, DhcpdSpecSt.st, DhcpdSpecSt.st, List.foldl_append]; rfl
  · rw [dhcpdSpecLine, if_neg h]
    exact dhcpdLine_t ⟨sp.name, sp.ip, sp.mac, {}⟩ _ line h

theorem readDHCPDLease_eq (content : Bytes) :
    readDHCPDLease content = (dhcpdBlocks content).foldl dhcpdApply {} :=
  congrArg DhcpdSt.t (List.foldl_hom (init := {}) (l := splitLines content) DhcpdSpecSt.st dhcpdLine_st)

def dblockNamePairs (b : DBlock) : List (Str × Str) :=
  if b.name ≠ [] ∧ b.ip ≠ [] then namePairs (absName (lower (absName b.name))) b.ip else []
def dblockAddrPairs (b : DBlock) : List (Str × Str) :=
  if b.name ≠ [] ∧ b.ip ≠ [] then [(b.ip, absName b.name)] else []
def dblockMacPairs (b : DBlock) : List (Str × Str) :=
  if b.name ≠ [] ∧ b.mac ≠ [] then [(b.mac, absName b.name)] else []

theorem dhcpdApply_tables (t : LeaseTbl) (b : DBlock) :
    (dhcpdApply t b).names = (dblockNamePairs b).foldl (fun m p => m.pushU p.1 p.2) t.names ∧
    (dhcpdApply t b).addrs = (dblockAddrPairs b).foldl (fun m p => m.pushU p.1 p.2) t.addrs ∧
    (dhcpdApply t b).macs = (dblockMacPairs b).foldl (fun m p => m.pushU p.1 p.2) t.macs := by
  unfold dhcpdApply dhcpdClose dblockNamePairs dblockAddrPairs dblockMacPairs namePairs
  by_cases h1 : b.name = [] <;> by_cases h2 : b.ip = [] <;> by_cases h3 : b.mac = [] <;> simp [h1, h2, h3]

end NV.Disc
