/-
  NV.Lemmas.MDNS, for the mDNS part of C18.  A table is read as the relation `x ∈ m.vals k`: the `…_spec` of an
  operation says which associations it adds or removes, and that the value lists stay sorted.
-/
import NV.Model.MDNS
import NV.Lemmas.Discovery
namespace NV.Disc
open NV

theorem mem_mdel_iff {V : Type} {m : List (Str × V)} {k : Str} {p : Str × V} :
    p ∈ mdel m k ↔ p ∈ m ∧ p.1 ≠ k := by simp [mdel]

theorem mem_mset_iff {V : Type} {m : List (Str × V)} {k : Str} {v : V} {p : Str × V} :
    p ∈ mset m k v ↔ p = (k, v) ∨ (p ∈ m ∧ p.1 ≠ k) := by simp [mset, mem_mdel_iff]

def keys {V : Type} (m : List (Str × V)) : List Str := m.map (·.1)

theorem mem_keys_mdel {V : Type} (m : List (Str × V)) (k k' : Str) :
    k ∈ keys (mdel m k') ↔ k ∈ keys m ∧ k ≠ k' := by
  simp only [keys, List.mem_map, mem_mdel_iff]
  exact ⟨fun ⟨p, ⟨hp, hne⟩, e⟩ => ⟨⟨p, hp, e⟩, e ▸ hne⟩, fun ⟨⟨p, hp, e⟩, hne⟩ => ⟨p, ⟨hp, e ▸ hne⟩, e⟩⟩

theorem keys_mdel_nodup {V : Type} (m : List (Str × V)) (k : Str) (h : (keys m).Nodup) :
    (keys (mdel m k)).Nodup := by
  unfold keys mdel at *
  exact h.sublist ((List.filter_sublist).map _)

theorem keys_mset_nodup {V : Type} (m : List (Str × V)) (k : Str) (v : V) (h : (keys m).Nodup) :
    (keys (mset m k v)).Nodup := by
  show (k :: keys (mdel m k)).Nodup
  apply List.nodup_cons.mpr
  refine ⟨?_, keys_mdel_nodup m k h⟩
  intro hm
  exact ((mem_keys_mdel m k k).mp hm).2 rfl

theorem mget_isSome_of_mem_keys {V : Type} (m : List (Str × V)) (k : Str) (h : k ∈ keys m) :
    (mget m k).isSome := by
  obtain ⟨p, hp, rfl⟩ := List.mem_map.mp h
  exact List.lookup_isSome_iff.mpr ⟨p, hp, beq_self_eq_true _⟩

theorem mem_of_mget {V : Type} (m : List (Str × V)) (k : Str) (v : V) (h : mget m k = some v) :
    (k, v) ∈ m := by
  obtain ⟨l₁, l₂, rfl, -⟩ := List.lookup_eq_some_iff.mp h
  exact List.mem_append_right _ List.mem_cons_self

theorem mget_of_mem {V : Type} (m : List (Str × V)) (k : Str) (v : V) (hn : (keys m).Nodup)
    (h : (k, v) ∈ m) : mget m k = some v := by
  obtain ⟨l₁, l₂, rfl⟩ := List.append_of_mem h
  refine List.lookup_eq_some_iff.mpr ⟨l₁, l₂, rfl, fun p hp => bne_iff_ne.mpr fun e => ?_⟩
  -- a second entry for `k` in front would make the key list repeat `k`
  rw [keys, List.map_append, List.nodup_append] at hn
  exact hn.2.2 p.1 (List.mem_map_of_mem hp) k List.mem_cons_self e.symm

theorem length_mdel_of_mem {V : Type} (m : List (Str × V)) (k : Str) (hn : (keys m).Nodup)
    (h : k ∈ keys m) : (mdel m k).length + 1 = m.length := by
  -- exactly one entry has key `k`; `mdel` keeps the others
  have h1 : m.countP (fun p => p.1 == k) = 1 := by
    have := hn.count (a := k)
    rwa [if_pos h, keys, List.count_eq_countP, List.countP_map] at this
  rw [List.length_eq_countP_add_countP (fun p => p.1 == k) (l := m), h1, Nat.add_comm, mdel,
    ← List.countP_eq_length_filter]
  simp [Bool.beq_eq_decide_eq]

theorem length_mdel_le {V : Type} (m : List (Str × V)) (k : Str) : (mdel m k).length ≤ m.length := by
  unfold mdel; exact List.length_filter_le _ _

theorem length_mset_le {V : Type} (m : List (Str × V)) (k : Str) (v : V) :
    (mset m k v).length ≤ m.length + 1 := by
  unfold mset
  simp only [List.length_cons]
  have := length_mdel_le m k
  omega

theorem vals_nil (k : Str) : ETbl.vals [] k = [] := rfl

theorem vals_mset (m : ETbl) (k k' : Str) (e : Entry) :
    ETbl.vals (mset m k' e) k = if k = k' then e.values else m.vals k := by
  unfold ETbl.vals ETbl.ent
  rw [mget_mset]
  split <;> simp

theorem vals_mdel (m : ETbl) (k k' : Str) :
    ETbl.vals (mdel m k') k = if k = k' then [] else m.vals k := by
  unfold ETbl.vals ETbl.ent
  rw [mget_mdel]
  split <;> simp

theorem vals_addEntry (m : ETbl) (key v : Str) (now : Nat) (k : Str) :
    (addEntry m key v now).vals k = if k = key then appendUniq1 (m.vals key) v else m.vals k := by
  unfold addEntry
  rw [vals_mset]

theorem vals_removeEntry (m : ETbl) (key v : Str) (k : Str) :
    (removeEntry m key v).vals k = if k = key then (m.vals key).erase v else m.vals k := by
  unfold removeEntry
  simp only
  -- `removeEntry` erases from `(m.ent key).values`, which is `m.vals key` by definition
  split
  · next h =>
    rw [vals_mdel]
    split
    · exact (List.length_eq_zero_iff.mp h).symm
    · rfl
  · rw [vals_mset]
    split <;> rfl

def ESorted (m : ETbl) : Prop := ∀ k, Sorted (m.vals k)

theorem addEntry_spec (m : ETbl) (key v : Str) (now : Nat) (hs : ESorted m) :
    ESorted (addEntry m key v now) ∧
    ∀ k x, x ∈ (addEntry m key v now).vals k ↔ x ∈ m.vals k ∨ (k = key ∧ x = v) := by
  refine ⟨fun k => ?_, fun k x => ?_⟩
  · rw [vals_addEntry]
    split
    · exact sorted_appendUniq1 _ _ (hs _)
    · exact hs k
  · rw [vals_addEntry]
    split
    · next h => subst h; rw [mem_appendUniq1 _ _ _ (hs _)]; simp [or_comm]
    · simp [*]

theorem removeEntry_spec (m : ETbl) (key v : Str) (hs : ESorted m) :
    ESorted (removeEntry m key v) ∧
    ∀ k x, x ∈ (removeEntry m key v).vals k ↔ x ∈ m.vals k ∧ ¬ (k = key ∧ x = v) := by
  refine ⟨fun k => ?_, fun k x => ?_⟩
  · rw [vals_removeEntry]
    split
    · exact (hs key).sublist List.erase_sublist
    · exact hs k
  · rw [vals_removeEntry]
    split
    · next h => subst h; rw [(hs k).nodup.mem_erase_iff]; simp [and_comm]
    · simp [*]

theorem mdel_spec (m : ETbl) (k' : Str) (hs : ESorted m) :
    ESorted (mdel m k') ∧ ∀ k x, x ∈ ETbl.vals (mdel m k') k ↔ x ∈ m.vals k ∧ k ≠ k' := by
  refine ⟨fun k => ?_, fun k x => ?_⟩
  · rw [vals_mdel]
    split
    · exact List.Pairwise.nil
    · exact hs k
  · rw [vals_mdel]
    split <;> simp [*]

theorem foldl_remove_spec {ι : Type} (op : ETbl → ι → ETbl) (P : ι → Str → Str → Prop)
    (hop : ∀ m i, ESorted m → ESorted (op m i) ∧ ∀ k x, x ∈ (op m i).vals k ↔ x ∈ m.vals k ∧ ¬ P i k x)
    (is : List ι) : ∀ (m : ETbl), ESorted m →
    ESorted (is.foldl op m) ∧ ∀ k x, x ∈ (is.foldl op m).vals k ↔ x ∈ m.vals k ∧ ¬ ∃ i ∈ is, P i k x := by
  induction is with
  | nil => intro m hs; exact ⟨hs, by simp⟩
  | cons i t ih =>
    intro m hs
    have h1 := hop m i hs
    have h2 := ih _ h1.1
    refine ⟨h2.1, fun k x => ?_⟩
    rw [List.foldl_cons, h2.2, h1.2]
    simp only [List.mem_cons, exists_eq_or_imp, not_or, and_assoc]

theorem removeFolded_spec (am : ETbl) (key addr : Str) (hs : ESorted am) :
    ESorted (removeFolded am key addr) ∧
    ∀ a x, x ∈ (removeFolded am key addr).vals a ↔ x ∈ am.vals a ∧ ¬ (a = addr ∧ prepareHostLookup x = key) := by
  have := foldl_remove_spec (fun am n => removeEntry am addr n) (fun n k x => k = addr ∧ x = n)
    (fun m n => removeEntry_spec m addr n) ((am.vals addr).filter fun n => prepareHostLookup n == key) am hs
  refine ⟨this.1, fun a x => ?_⟩
  rw [removeFolded, this.2]
  simp only [List.mem_filter, beq_iff_eq]
  constructor
  · rintro ⟨h1, h2⟩; exact ⟨h1, fun ⟨e, h3⟩ => h2 ⟨x, ⟨e ▸ h1, h3⟩, e, rfl⟩⟩
  · rintro ⟨h1, h2⟩; exact ⟨h1, fun ⟨n, ⟨_, h3⟩, e, h4⟩ => h2 ⟨e, h4 ▸ h3⟩⟩

theorem removeFolded_fold_spec (key : Str) (A : List Str) (am : ETbl) (hs : ESorted am) :
    ESorted (A.foldl (fun am a => removeFolded am key a) am) ∧
    ∀ a x, x ∈ (A.foldl (fun am a => removeFolded am key a) am).vals a ↔
      x ∈ am.vals a ∧ ¬ (a ∈ A ∧ prepareHostLookup x = key) := by
  have := foldl_remove_spec (fun am a => removeFolded am key a) (fun b a x => a = b ∧ prepareHostLookup x = key)
    (fun m b => removeFolded_spec m key b) A am hs
  refine ⟨this.1, fun a x => ?_⟩
  rw [this.2]
  exact and_congr_right fun _ => not_congr ⟨fun ⟨_, hb, e, h⟩ => ⟨e ▸ hb, h⟩, fun ⟨hb, h⟩ => ⟨a, hb, rfl, h⟩⟩

/-- the scan of `removeOldestEntry` returns a least stamp, with its start values or else a key of the table
carrying it -/
theorem oldestAux_spec : ∀ (l : ETbl) (k0 : Str) (t0 : Nat),
    (oldestAux l k0 t0).2 ≤ t0 ∧
    (∀ p ∈ l, (oldestAux l k0 t0).2 ≤ p.2.stamp) ∧
    ((oldestAux l k0 t0 = (k0, t0)) ∨
      (∃ e, ((oldestAux l k0 t0).1, e) ∈ l ∧ e.stamp = (oldestAux l k0 t0).2 ∧ (oldestAux l k0 t0).2 < t0)) := by
  intro l
  induction l with
  | nil => intro k0 t0; simp [oldestAux]
  | cons p t ih =>
    intro k0 t0
    obtain ⟨k', e⟩ := p
    simp only [oldestAux]
    split
    · next hlt =>
      obtain ⟨hle, hmin, hwho⟩ := ih k' e.stamp
      refine ⟨by omega, List.forall_mem_cons.mpr ⟨hle, hmin⟩, .inr ?_⟩
      · rcases hwho with h | ⟨e', h1, h2, h3⟩
        · rw [h]; exact ⟨e, by simp, rfl, hlt⟩
        · exact ⟨e', List.mem_cons_of_mem _ h1, h2, by omega⟩
    · next hge =>
      obtain ⟨hle, hmin, hwho⟩ := ih k0 t0
      exact ⟨hle, List.forall_mem_cons.mpr ⟨by simp only; omega, hmin⟩,
        hwho.imp_right fun ⟨e', h1, h2, h3⟩ => ⟨e', List.mem_cons_of_mem _ h1, h2, h3⟩⟩

theorem oldestAux_found (l : ETbl) (k0 : Str) (t0 : Nat) (p : Str × Entry) (hp : p ∈ l) (hlt : p.2.stamp < t0) :
    ∃ e, ((oldestAux l k0 t0).1, e) ∈ l ∧ e.stamp = (oldestAux l k0 t0).2 := by
  obtain ⟨-, hmin, h1 | ⟨e, h1, h2, -⟩⟩ := oldestAux_spec l k0 t0
  · -- the scan returned its start value `t0`, yet `p` is older
    have := hmin p hp
    rw [h1] at this
    simp at this
    omega
  · exact ⟨e, h1, h2⟩

/-- the two views agree: `a` is listed under key `k` iff some announced spelling of `k` is listed
under address `a` -/
def Agree (s : MState) : Prop :=
  ∀ a k, a ∈ s.names.vals k ↔ ∃ n ∈ s.addrs.vals a, prepareHostLookup n = k

/-- invariant of the tables between two operations of the ingest loop (without the cap); `stamps` and
`keysNonempty` are for `removeOldestEntry`, whose scan starts from `time.Now()` and reports "none" as the empty name.
Not part of it: that a listed key has a value (`removeEntry` deletes emptied keys). -/
structure PreInv (s : MState) : Prop where
  namesKeys : (keys s.names).Nodup
  stamps : ∀ p ∈ s.names, p.2.stamp < s.clock
  keysNonempty : ∀ p ∈ s.names, p.1 ≠ []
  sortedN : ESorted s.names
  sortedA : ESorted s.addrs
  agree : Agree s

theorem preInv_init : PreInv {} where
  namesKeys := List.nodup_nil
  stamps := fun _ h => nomatch h
  keysNonempty := fun _ h => nomatch h
  sortedN := fun _ => List.Pairwise.nil
  sortedA := fun _ => List.Pairwise.nil
  agree := fun a k => by simp [vals_nil]

theorem removeOldest_eq (s : MState) (k : Str) (hk : (oldestAux s.names [] s.clock).1 = k) (hne : k ≠ []) :
    removeOldest s = { addrs := (s.names.vals k).foldl (fun am a => removeFolded am k a) s.addrs,
                       names := mdel s.names k, clock := s.clock + 1 } := by
  subst hk; simp [removeOldest, hne]

/-- the key `k` that `removeOldestEntry` picks is listed and has a least stamp; `k` alone leaves `names`, which gets one
shorter; the invariant is kept -/
theorem removeOldest_spec (s : MState) (h : PreInv s) (hne : s.names ≠ []) :
    let k := (oldestAux s.names [] s.clock).1
    k ∈ keys s.names ∧
    (∀ p ∈ s.names, (s.names.ent k).stamp ≤ p.2.stamp) ∧
    (removeOldest s).names = mdel s.names k ∧
    (removeOldest s).names.length + 1 = s.names.length ∧
    PreInv (removeOldest s) := by
  intro k
  obtain ⟨p0, hp0⟩ := List.exists_mem_of_ne_nil _ hne
  obtain ⟨e, he1, he2⟩ := oldestAux_found s.names [] s.clock p0 hp0 (h.stamps p0 hp0)
  have hk : k ∈ keys s.names := List.mem_map.mpr ⟨(k, e), he1, rfl⟩
  have hent : s.names.ent k = e := congrArg (·.getD {}) (mget_of_mem s.names k e h.namesKeys he1)
  have hfold := removeFolded_fold_spec k (s.names.vals k) s.addrs h.sortedA
  have hdel := mdel_spec s.names k h.sortedN
  rw [removeOldest_eq s k rfl (h.keysNonempty (k, e) he1)]
  refine ⟨hk, fun p hp => ?_, rfl, length_mdel_of_mem s.names k h.namesKeys hk, ?_⟩
  · rw [hent, he2]
    exact (oldestAux_spec s.names [] s.clock).2.1 p hp
  · exact {
      namesKeys := keys_mdel_nodup _ _ h.namesKeys
      stamps := fun p hp => Nat.lt_succ_of_lt (h.stamps p (mem_mdel_iff.mp hp).1)
      keysNonempty := fun p hp => h.keysNonempty p (mem_mdel_iff.mp hp).1
      sortedN := hdel.1
      sortedA := hfold.1
      agree := fun a k' => by
        -- relationally: the pairs of key `k` leave `names`, the pairs `(a, n)` with `a` listed under `k`
        -- and `n` folding to `k` leave `addrs`
        simp only [hdel.2, hfold.2, h.agree a k']
        constructor
        · rintro ⟨⟨n, hn, rfl⟩, hne⟩; exact ⟨n, ⟨hn, fun h' => hne h'.2⟩, rfl⟩
        · rintro ⟨n, ⟨hn, hnot⟩, rfl⟩
          exact ⟨⟨n, hn, rfl⟩, fun e => hnot ⟨(h.agree a k).mpr ⟨n, hn, e⟩, e⟩⟩ }

/-- the cap is reached given fuel for the excess; `ingestOne` passes `length + 1` -/
theorem evictLoop_spec (cap : Nat) : ∀ (fuel : Nat) (s : MState), PreInv s →
    PreInv (evictLoop cap fuel s) ∧
    (s.names.length ≤ cap + fuel → (evictLoop cap fuel s).names.length ≤ cap) := by
  intro fuel
  induction fuel with
  | zero => intro s h; exact ⟨h, by simp [evictLoop]⟩
  | succ n ih =>
    intro s h
    simp only [evictLoop]
    split
    · next hgt =>
      have hne : s.names ≠ [] := by intro e; rw [e] at hgt; simp at hgt
      obtain ⟨-, -, -, hlen, hinv⟩ := removeOldest_spec s h hne
      have := ih (removeOldest s) hinv
      exact ⟨this.1, fun hl => this.2 (by omega)⟩
    · exact ⟨h, fun _ => by omega⟩

/-- the state after the two `addEntry` calls of the ingest loop -/
def afterAdds (s : MState) (addr name : Str) : MState :=
  { addrs := addEntry s.addrs addr name s.clock,
    names := addEntry s.names (prepareHostLookup name) addr (s.clock + 1),
    clock := s.clock + 1 + 1 }

theorem absName_ne_nil (s : Str) : absName s ≠ [] := by
  unfold absName
  split
  · next h => intro e; subst e; simp at h
  · simp

theorem afterAdds_preInv (s : MState) (addr name : Str) (h : PreInv s) : PreInv (afterAdds s addr name) where
  namesKeys := keys_mset_nodup _ _ _ h.namesKeys
  stamps := by
    intro p hp
    rcases mem_mset_iff.mp hp with hp | hp
    · subst hp; simp [afterAdds]
    · have := h.stamps p hp.1
      simp only [afterAdds]; omega
  keysNonempty := by
    intro p hp
    rcases mem_mset_iff.mp hp with hp | hp
    · subst hp; exact absName_ne_nil _  -- the key is `prepareHostLookup name = absName (lower name)`
    · exact h.keysNonempty p hp.1
  sortedN := (addEntry_spec _ _ _ _ h.sortedN).1
  sortedA := (addEntry_spec _ _ _ _ h.sortedA).1
  agree := by
    intro a k
    simp only [afterAdds, (addEntry_spec _ _ _ _ h.sortedN).2, (addEntry_spec _ _ _ _ h.sortedA).2, h.agree a k]
    constructor
    · rintro (⟨n, hn, rfl⟩ | ⟨rfl, rfl⟩)
      · exact ⟨n, Or.inl hn, rfl⟩
      · exact ⟨_, Or.inr ⟨rfl, rfl⟩, rfl⟩
    · rintro ⟨n, hn | ⟨rfl, rfl⟩, rfl⟩
      · exact Or.inl ⟨n, hn, rfl⟩
      · exact Or.inr ⟨rfl, rfl⟩

theorem ingestOne_eq (cap : Nat) (s : MState) (e : Str × Str) :
    ingestOne cap s e = if isValidName e.2 then
      evictLoop cap ((afterAdds s e.1 (absName e.2)).names.length + 1) (afterAdds s e.1 (absName e.2))
    else s := by
  unfold ingestOne afterAdds prepareHostLookup
  rfl

/-- what the empty tables have and every `ingestOne` keeps holds after any packets -/
theorem run_induct {cap : Nat} {P : MState → Prop} (h0 : P {}) (hstep : ∀ s e, P s → P (ingestOne cap s e))
    (pkts : List (List (Str × Str))) : P (run cap pkts) :=
  List.foldlRecOn pkts _ h0 fun _ hs es _ => List.foldlRecOn es _ hs fun s hs e _ => hstep s e hs

end NV.Disc
