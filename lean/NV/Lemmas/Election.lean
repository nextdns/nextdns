/-
  NV.Lemmas.Election — an election as a flat scan: the nested loops of `findBestEndpointLocked`
  (`scanProvs`/`probeEps`) compute exactly the left-to-right scan of the list `items`, up to the first
  item with a `stopOf` (`scan_eq_flat`); what `findBest` returns is read off that scan.
-/
import NV.Model.Manager
namespace NV.Mgr

def provItems (i : Nat) : ProvRes → List Item
  | .ok eps => .pok i :: eps.map .cand
  | .err => [.perr i]
  | .unreach => [.punreach i]

/-- per provider its marker, then the endpoints it offers, in preference order -/
def itemsFrom : Nat → List ProvRes → List Item
  | _, [] => []
  | i, p :: ps => provItems i p ++ itemsFrom (i + 1) ps

def items (env : Env) : List Item := itemsFrom 0 env.provs

/-- `some`: the election ends at this item (a passing probe elects; network-unreachable, from a
probe or from a provider, aborts) -/
def stopOf (h : Nat → Res) : Item → Option Stop
  | .cand e => match h e.key with
    | .ok => some (.elected e)
    | .unreach => some .unreach
    | .err => none
  | .punreach _ => some .unreach
  | _ => none

def scanFlat (h : Nat → Res) : List Item → List Item × Option Stop
  | [] => ([], none)
  | x :: xs => match stopOf h x with
    | some s => ([x], some s)
    | none => (x :: (scanFlat h xs).1, (scanFlat h xs).2)

theorem scanFlat_append (h : Nat → Res) (a b : List Item) :
    scanFlat h (a ++ b) =
      match (scanFlat h a).2 with
      | some s => ((scanFlat h a).1, some s)
      | none => ((scanFlat h a).1 ++ (scanFlat h b).1, (scanFlat h b).2) := by
  induction a with
  | nil => rfl
  | cons x xs ih =>
    simp only [List.cons_append, scanFlat]
    cases stopOf h x with
    | some s => rfl
    | none => simp only [ih]; cases (scanFlat h xs).2 <;> rfl

theorem probeEps_eq (h : Nat → Res) (eps : List Ep) : probeEps h eps = scanFlat h (eps.map .cand) := by
  induction eps with
  | nil => rfl
  | cons e es ih =>
    simp only [List.map_cons, scanFlat, stopOf, probeEps, ih]
    cases h e.key <;> rfl

theorem scan_eq_flat (h : Nat → Res) (ps : List ProvRes) (i : Nat) :
    scanProvs h i ps = scanFlat h (itemsFrom i ps) := by
  induction ps generalizing i with
  | nil => rfl
  | cons p ps ih =>
    rw [itemsFrom, scanFlat_append, ← ih]
    cases p with
    | unreach => rfl
    | err => rfl
    | ok eps =>
      simp only [scanProvs, provItems, scanFlat, stopOf, probeEps_eq]
      cases (scanFlat h (eps.map .cand)).2 <;> rfl

theorem scanFlat_none (h : Nat → Res) (its : List Item) (hx : ∀ x ∈ its, stopOf h x = none) :
    scanFlat h its = (its, none) := by
  induction its with
  | nil => rfl
  | cons x xs ih => simp [scanFlat, hx x (by simp), ih fun y hy => hx y (by simp [hy])]

theorem scanFlat_stop (h : Nat → Res) (pre : List Item) (d : Item) (post : List Item) (s : Stop)
    (hpre : ∀ x ∈ pre, stopOf h x = none) (hd : stopOf h d = some s) :
    scanFlat h (pre ++ d :: post) = (pre ++ [d], some s) := by
  simp [scanFlat_append, scanFlat_none h pre hpre, scanFlat, hd]

theorem findBest_stop (v : Variant) (env : Env) (pre : List Item) (d : Item) (post : List Item) (s : Stop) :
    items env = pre ++ d :: post → (∀ x ∈ pre, stopOf env.health x = none) → stopOf env.health d = some s →
    (findBest v env).1 = pre ++ [d] ∧
    (findBest v env).2 = (match s with | .elected e => .elected e | .unreach => .unreach) := by
  intro hi hpre hd
  unfold items at hi
  simp only [findBest, scan_eq_flat, hi, scanFlat_stop env.health pre d post s hpre hd, true_and]
  cases s <;> rfl

theorem findBest_first_healthy (v : Variant) {env : Env} {pre post : List Item} {y : Ep}
    (hi : items env = pre ++ .cand y :: post) (hpre : ∀ x ∈ pre, stopOf env.health x = none)
    (hy : env.health y.key = .ok) : (findBest v env).2 = .elected y :=
  (findBest_stop v env pre (.cand y) post (.elected y) hi hpre (by simp [stopOf, hy])).2

theorem findBest_nostop (v : Variant) (env : Env) (hall : ∀ x ∈ items env, stopOf env.health x = none) :
    (findBest v env).1 = items env ∧
    (findBest v env).2 = (match firstCand (items env) with
      | some e => .fallback e
      | none => if v.errOnNoCand then .noEndpoint else .fallbackNil) := by
  unfold items at hall ⊢
  simp only [findBest, scan_eq_flat, scanFlat_none env.health _ hall, true_and]
  rfl

/-- one of `findBest_stop` / `findBest_nostop` always applies -/
theorem stop_cases (h : Nat → Res) (its : List Item) :
    (∃ pre d post s, its = pre ++ d :: post ∧ (∀ x ∈ pre, stopOf h x = none) ∧ stopOf h d = some s) ∨
    ∀ x ∈ its, stopOf h x = none := by
  cases hf : its.find? fun x => (stopOf h x).isSome with
  | none => exact Or.inr fun x hx => by simpa using List.find?_eq_none.1 hf x hx
  | some d =>
    obtain ⟨hd, pre, post, hi, hpre⟩ := List.find?_eq_some_iff_append.1 hf
    obtain ⟨s, hs⟩ := Option.isSome_iff_exists.1 hd
    exact Or.inl ⟨pre, d, post, s, hi, fun x hx => by simpa using hpre x hx, hs⟩

theorem findBest_prefix (v : Variant) (env : Env) : (findBest v env).1 <+: items env := by
  rcases stop_cases env.health (items env) with ⟨pre, d, post, s, hi, hpre, hs⟩ | hall
  · exact ⟨post, by simp [(findBest_stop v env pre d post s hi hpre hs).1, hi]⟩
  · exact (findBest_nostop v env hall).1 ▸ List.prefix_refl _

theorem firstCand_eq_head (t : List Item) : firstCand t = (candsOf t).head? := by
  induction t with
  | nil => rfl
  | cons x xs ih => cases x <;> simp [firstCand, candsOf, ih]

theorem firstCand_mem (t : List Item) (e : Ep) (h : firstCand t = some e) : e ∈ candsOf t :=
  List.mem_of_head? (firstCand_eq_head t ▸ h)

theorem firstCand_none : ∀ (t : List Item), firstCand t = none → candsOf t = [] :=
  fun t h => List.head?_eq_none_iff.1 (firstCand_eq_head t ▸ h)

theorem candsOf_append (a b : List Item) : candsOf (a ++ b) = candsOf a ++ candsOf b := by
  induction a with
  | nil => rfl
  | cons x xs ih => cases x <;> simp [candsOf, ih]

theorem stopOf_elected {h : Nat → Res} {d : Item} {e : Ep} (hd : stopOf h d = some (.elected e)) :
    d = .cand e ∧ h e.key = .ok := by
  cases d with
  | cand c =>
    cases hk : h c.key <;> simp only [stopOf, hk] at hd <;> cases hd
    exact ⟨rfl, hk⟩
  | _ => cases hd

theorem findBest_outcome (v : Variant) (env : Env) :
    match (findBest v env).2 with
    | .elected e => e ∈ candsOf (findBest v env).1 ∧ env.health e.key = .ok
    | .fallback e => e ∈ candsOf (findBest v env).1
    | .fallbackNil => v.errOnNoCand = false
    | _ => True := by
  rcases stop_cases env.health (items env) with ⟨pre, d, post, s, hi, hpre, hs⟩ | hall
  · obtain ⟨h1, h2⟩ := findBest_stop v env pre d post s hi hpre hs
    rw [h2, h1]
    cases s with
    | unreach => trivial
    | elected x =>
      obtain ⟨rfl, hk⟩ := stopOf_elected hs
      exact ⟨by simp [candsOf_append, candsOf], hk⟩
  · obtain ⟨h1, h2⟩ := findBest_nostop v env hall
    rw [h2, h1]
    cases hf : firstCand (items env) with
    | some e => exact firstCand_mem _ _ hf
    | none => cases hv : v.errOnNoCand <;> simp

def offeredL : List ProvRes → List Ep
  | [] => []
  | .ok eps :: ps => eps ++ offeredL ps
  | _ :: ps => offeredL ps

/-- every endpoint some provider currently returns -/
def offered (env : Env) : List Ep := offeredL env.provs

theorem candsOf_map_cand (eps : List Ep) : candsOf (eps.map .cand) = eps := by
  induction eps with
  | nil => rfl
  | cons e es ih => simp [candsOf, ih]

theorem candsOf_itemsFrom (ps : List ProvRes) (i : Nat) : candsOf (itemsFrom i ps) = offeredL ps := by
  induction ps generalizing i with
  | nil => rfl
  | cons p ps ih =>
    cases p <;> simp [itemsFrom, provItems, candsOf, candsOf_append, candsOf_map_cand, offeredL, ih]

theorem findBest_cands_offered (v : Variant) (env : Env) : ∀ e ∈ candsOf (findBest v env).1, e ∈ offered env := by
  intro e he
  obtain ⟨r, hr⟩ := findBest_prefix v env
  rw [offered, ← candsOf_itemsFrom env.provs 0, ← items, ← hr, candsOf_append]
  exact List.mem_append_left _ he

end NV.Mgr
