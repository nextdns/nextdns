/-
  Lemmas for C12.  `ptrIP` inverts `reverseName`: the name is dot-joined labels (`dotJoin`), and `ptrLoop` consumes
  one `Label` per iteration.  Then the Builder loops of `hostsResolve` as one fold, the hosts tables while they are
  built (`listed`), and `resolve_eq`.
-/
import NV.Lemmas.Wire
import NV.Model.Local
import NV.Spec.Local
namespace NV
open NV.Spec

theorem set_mid (pre post : Bytes) (y v : UInt8) :
    (pre ++ y :: post).set pre.length v = pre ++ v :: post := by
  rw [List.set_append_right _ _ (Nat.le_refl _), Nat.sub_self, List.set_cons_zero]

theorem byteAt_mid (pre post : Bytes) (y : UInt8) : byteAt (pre ++ y :: post) pre.length = y.toNat :=
  (At.suffix pre (y :: post)).byteAt

theorem hasSuffix_append (x suf : Bytes) : hasSuffix (x ++ suf) suf = true := by
  simp [hasSuffix]

theorem hasSuffix_last (s suf : Bytes) (h : hasSuffix s suf = true) (hs : suf ≠ []) :
    s.getLast? = suf.getLast? := by
  simp only [hasSuffix, Bool.and_eq_true, decide_eq_true_eq, beq_iff_eq] at h
  have : suf.length ≠ 0 := by simpa using hs
  rw [← h.2, List.getLast?_drop, if_neg (by omega)]

/-- as a label: `lastDot` finds nothing -/
def noDot (l : Bytes) : Prop := ∀ c ∈ l, c ≠ 46

theorem lastDotFrom_noDot (l : Bytes) (h : noDot l) : ∀ (i : Nat) (acc : Option Nat),
    lastDotFrom l i acc = acc := by
  induction l with
  | nil => intro i acc; rfl
  | cons c cs ih =>
    intro i acc
    have hc : c ≠ 46 := h c (by simp)
    simp only [lastDotFrom, hc, if_false]
    exact ih (fun x hx => h x (by simp [hx])) _ _

theorem lastDotFrom_append (p : Bytes) : ∀ (q : Bytes) (i : Nat) (acc : Option Nat),
    lastDotFrom (p ++ q) i acc = lastDotFrom q (i + p.length) (lastDotFrom p i acc) := by
  induction p with
  | nil => intro q i acc; simp [lastDotFrom]
  | cons c cs ih =>
    intro q i acc
    simp only [List.cons_append, lastDotFrom, ih, List.length_cons]
    congr 1; omega

theorem lastDot_append_dot (p l : Bytes) (h : noDot l) : lastDot (p ++ 46 :: l) = some p.length := by
  unfold lastDot
  rw [lastDotFrom_append]
  simp only [lastDotFrom, if_true, Nat.zero_add]
  exact lastDotFrom_noDot l h _ _

theorem lastDot_noDot (l : Bytes) (h : noDot l) : lastDot l = none :=
  lastDotFrom_noDot l h 0 none

/-- what `ptrIP` and the case folding need to know of one label of a reverse name -/
structure Label (base n : Nat) (l : Bytes) : Prop where
  parse : parseUint8 l base = some n
  ne : l ≠ []
  noDot : noDot l
  lower : lowerASCII l = l

theorem digitVal_hexCh : ∀ d < 16, digitVal (hexCh d) = some d := by decide

theorem hexCh_ne_dot : ∀ d < 16, hexCh d ≠ 46 := by decide

theorem lowerByte_hexCh : ∀ d < 16, lowerByte (hexCh d) = hexCh d := by decide

theorem parseDigits_hex {base : Nat} (hb : base ≤ 16) : ∀ (ds : List Nat) (acc : Nat), (∀ d ∈ ds, d < base) →
    parseDigits base (ds.map hexCh) acc = some (ds.foldl (fun a d => a * base + d) acc) := by
  intro ds
  induction ds with
  | nil => intro _ _; rfl
  | cons d ds ih =>
    intro acc h
    have hd : d < base := h d (by simp)
    simp only [List.map_cons, parseDigits, digitVal_hexCh d (by omega), List.foldl_cons, ge_iff_le, Nat.not_le.mpr hd,
      if_false]
    exact ih _ fun d' h' => h d' (by simp [h'])

theorem Label.ofDigits {base n : Nat} (hb : base ≤ 16) (ds : List Nat) (hne : ds ≠ []) (hd : ∀ d ∈ ds, d < base)
    (hv : ds.foldl (fun a d => a * base + d) 0 = n) (hn : n < 256) : Label base n (ds.map hexCh) where
  parse := by simp [parseUint8, hne, parseDigits_hex hb ds 0 hd, hv, Nat.not_lt.mpr (Nat.le_of_lt_succ hn)]
  ne := by simpa using hne
  noDot := List.forall_mem_map.mpr fun d hm => hexCh_ne_dot d (Nat.lt_of_lt_of_le (hd d hm) hb)
  lower := by
    rw [lowerASCII, List.map_map]
    exact List.map_congr_left fun d hm => lowerByte_hexCh d (Nat.lt_of_lt_of_le (hd d hm) hb)

theorem nib_label {n : Nat} (h : n < 16) : Label 16 n [hexCh n] :=
  .ofDigits (Nat.le_refl _) [n] (by simp) (by simpa using h) (by simp) (Nat.lt_trans h (by decide))

theorem dec_label {n : Nat} (h : n < 256) : Label 10 n (dec n) := by
  -- decimal digits are hex digits, so `Label.ofDigits` (stated over `hexCh`) serves base 10 too
  have e : ∀ d, d < 10 → digitCh d = hexCh d := fun d hd => (if_pos hd).symm
  have m : ∀ k, k % 10 < 10 := fun k => Nat.mod_lt k (by decide)
  unfold dec
  split
  · next h1 =>
    rw [e n h1]
    exact .ofDigits (by decide) [n] (by simp) (by simpa) (by simp) h
  split
  · next h2 =>
    have d1 : n / 10 < 10 := Nat.div_lt_of_lt_mul h2
    rw [e _ d1, e _ (m n)]
    exact .ofDigits (by decide) [n / 10, n % 10] (by simp) (by simp [d1, m]) (by simp [Nat.div_add_mod']) h
  · have d1 : n / 100 < 10 := Nat.div_lt_of_lt_mul (Nat.lt_trans h (by decide))
    rw [e _ d1, e _ (m _), e _ (m n)]
    refine .ofDigits (by decide) [n / 100, n / 10 % 10, n % 10] (by simp) (by simp [d1, m]) ?_ h
    simp only [List.foldl_cons, List.foldl_nil, Nat.zero_mul, Nat.zero_add]
    rw [show n / 100 = n / 10 / 10 from (Nat.div_div_eq_div_mul n 10 10).symm, Nat.div_add_mod', Nat.div_add_mod']

/-- labels joined by dots, none at the end; the head is the label `ptrLoop` parses first (the last one of the name) -/
def dotJoin : List Bytes → Bytes
  | [] => []
  | [l] => l
  | l :: ls => dotJoin ls ++ 46 :: l

theorem ptrLoop_nil (base k i : Nat) (ip : Bytes) : ptrLoop base k i ip [] = some ip := by
  cases k <;> simp [ptrLoop]

theorem ptrLoop_step {base n : Nat} {l : Bytes} (hl : Label base n l) (k i : Nat) (ip : Bytes) (ls : List Bytes) :
    ptrLoop base (k + 1) i ip (dotJoin (l :: ls))
      = ptrLoop base k (i + 1)
          (ip.set (if base = 16 then i / 2 else i)
            (b8 (if base = 16 ∧ i % 2 = 1 then n ||| (byteAt ip (if base = 16 then i / 2 else i) * 16 % 256) else n)))
          (dotJoin ls) := by
  cases ls with
  | nil =>
    simp only [dotJoin, ptrLoop, hl.ne, if_false, lastDot_noDot l hl.noDot, List.drop_zero, hl.parse, List.take_zero]
  | cons l' ls =>
    have hlen : l.length ≠ 0 := by simpa using hl.ne
    have h2 : ¬ ((dotJoin (l' :: ls)).length = (dotJoin (l' :: ls) ++ 46 :: l).length - 1) := by
      simp only [List.length_append, List.length_cons]; omega
    have h3 : (dotJoin (l' :: ls) ++ 46 :: l).drop ((dotJoin (l' :: ls)).length + 1) = l := by
      rw [List.drop_append]; simp
    simp only [dotJoin, ptrLoop, List.append_eq_nil_iff, reduceCtorEq, and_false, if_false,
      lastDot_append_dot _ l hl.noDot, h2, h3, hl.parse, List.take_left']

theorem rev4_eq_dotJoin (ip : Bytes) : rev4 ip = dotJoin ([0, 1, 2, 3].map fun i => dec (byteAt ip i)) := rfl

theorem ptrLoop_rev4 (x0 x1 x2 x3 : UInt8) :
    ptrLoop 10 4 0 (List.replicate 4 0) (rev4 [x0, x1, x2, x3]) = some [x0, x1, x2, x3] := by
  have lab (i : Nat) := dec_label (byteAt_lt [x0, x1, x2, x3] i)
  simp only [rev4_eq_dotJoin, List.map_cons, List.map_nil]
  rw [ptrLoop_step (lab 0), ptrLoop_step (lab 1), ptrLoop_step (lab 2), ptrLoop_step (lab 3), dotJoin, ptrLoop_nil]
  simp [byteAt, b8_toNat_self]

/-- the two labels of one byte of an IPv6 address, in the order `ptrLoop` meets them -/
def nibLabels (b : UInt8) : List Bytes := [[hexCh (b.toNat / 16)], [hexCh (b.toNat % 16)]]

theorem rev6_eq_dotJoin : ∀ bs : Bytes, rev6 bs = dotJoin (bs.flatMap nibLabels)
  | [] => rfl
  | [_] => rfl
  | b :: b' :: rest => by rw [rev6, rev6_eq_dotJoin (b' :: rest)]; rfl

/-- two iterations in base 16 assemble one byte: the first stores the high nibble, the second shifts it up and
ors in the low one -/
theorem ptrLoop_byte (b y : UInt8) (k : Nat) (pre post : Bytes) (ls : List Bytes) :
    ptrLoop 16 (k + 2) (2 * pre.length) (pre ++ y :: post) (dotJoin (nibLabels b ++ ls))
      = ptrLoop 16 k (2 * pre.length + 2) (pre ++ b :: post) (dotJoin ls) := by
  have hb := UInt8.toNat_lt b
  have hhi : b.toNat / 16 < 16 := Nat.div_lt_of_lt_mul hb
  have hjoin : (b.toNat % 16 ||| (b.toNat / 16 * 16 % 256)) = b.toNat := by
    rw [Nat.mod_eq_of_lt (Nat.lt_of_le_of_lt (Nat.div_mul_le_self ..) hb), Nat.or_comm, Nat.mul_comm,
      ← Nat.two_pow_add_eq_or_of_lt (i := 4) (Nat.mod_lt _ (by decide)), Nat.div_add_mod]
  rw [nibLabels, List.cons_append, ptrLoop_step (nib_label hhi), List.cons_append,
    ptrLoop_step (nib_label (Nat.mod_lt _ (by decide)))]
  -- the indices `2 * pre.length` (even) and `2 * pre.length + 1` (odd) both halve to `pre.length`
  simp only [if_true, true_and, Nat.mul_mod_right, Nat.zero_ne_one, if_false, Nat.mul_add_mod, Nat.one_mod,
    Nat.mul_div_cancel_left _ Nat.zero_lt_two, Nat.mul_add_div Nat.zero_lt_two, Nat.reduceDiv, Nat.add_zero,
    set_mid, byteAt_mid, b8_toNat _ (Nat.lt_trans hhi (by decide)), hjoin, b8_toNat_self, List.nil_append]

theorem ptrLoop_rev6 (bs : Bytes) : ∀ (pre post : Bytes) (k : Nat), post.length = bs.length →
    ptrLoop 16 (k + 2 * bs.length) (2 * pre.length) (pre ++ post) (dotJoin (bs.flatMap nibLabels)) = some (pre ++ bs) := by
  induction bs with
  | nil =>
    intro pre post k hl
    rw [List.length_eq_zero_iff.mp hl]
    exact ptrLoop_nil ..
  | cons b rest ih =>
    intro pre post k hl
    obtain ⟨y, post, rfl⟩ := List.exists_cons_of_length_eq_add_one hl
    rw [List.flatMap_cons]
    refine (ptrLoop_byte b y (k + 2 * rest.length) pre post _).trans ?_
    have := ih (pre ++ [b]) post k (by simpa using hl)
    simpa [Nat.mul_add] using this

theorem take_append_suffix (x suf : Bytes) {n : Nat} (h : suf.length = n) :
    (x ++ suf).take ((x ++ suf).length - n) = x := by
  subst h; simp

theorem ptrIPCore_inaddr (body : Bytes) :
    ptrIPCore ((body ++ sufInAddr) ++ sufArpa) = ptrLoop 10 4 0 (List.replicate 4 0) body := by
  simp only [ptrIPCore, hasSuffix_append, take_append_suffix _ sufArpa (n := 6) rfl,
    take_append_suffix _ sufInAddr (n := 8) rfl, Bool.not_true, Bool.false_eq_true, if_false, if_true]

theorem ptrIPCore_ip6 (body : Bytes) :
    ptrIPCore ((body ++ sufIp6) ++ sufArpa) = ptrLoop 16 32 0 (List.replicate 16 0) body := by
  have hno : hasSuffix (body ++ sufIp6) sufInAddr = false := by
    refine Bool.eq_false_iff.mpr fun hh => ?_
    -- the last bytes differ: '6' and 'r'
    have := hasSuffix_last _ _ hh (by decide)
    simp [sufIp6, sufInAddr] at this
  simp only [ptrIPCore, hasSuffix_append, take_append_suffix _ sufArpa (n := 6) rfl, hno,
    take_append_suffix _ sufIp6 (n := 4) rfl, Bool.not_true, Bool.false_eq_true, if_false, if_true]

theorem ptrIPCore_reverseName (ip : Bytes) (h : ip.length = 4 ∨ ip.length = 16) :
    ptrIPCore (reverseName ip) = some ip := by
  rcases h with h4 | h16
  · match ip, h4 with
    | [x0, x1, x2, x3], h4 =>
      rw [reverseName, if_pos h4, ptrIPCore_inaddr]
      exact ptrLoop_rev4 x0 x1 x2 x3
  · rw [reverseName, if_neg (by omega), ptrIPCore_ip6, rev6_eq_dotJoin]
    simpa [h16] using ptrLoop_rev6 ip [] (List.replicate 16 0) 0 (by simp [h16])

theorem lowerASCII_append (a b : Bytes) : lowerASCII (a ++ b) = lowerASCII a ++ lowerASCII b := by
  simp [lowerASCII]

theorem dotJoin_lower : ∀ ls : List Bytes, (∀ l ∈ ls, lowerASCII l = l) → lowerASCII (dotJoin ls) = dotJoin ls
  | [], _ => rfl
  | [l], h => h l (by simp)
  | l :: l' :: ls, h => by
    have : lowerASCII (46 :: l) = 46 :: l := by rw [lowerASCII, List.map_cons, ← lowerASCII, h l (by simp)]; rfl
    show lowerASCII (dotJoin (l' :: ls) ++ 46 :: l) = dotJoin (l' :: ls) ++ 46 :: l
    rw [lowerASCII_append, this, dotJoin_lower (l' :: ls) fun x hx => h x (by simp [hx])]

theorem reverseName_lower (ip : Bytes) (h : ip.length = 4 ∨ ip.length = 16) :
    lowerASCII (reverseName ip) = reverseName ip := by
  have s1 : lowerASCII sufArpa = sufArpa := by decide
  have s2 : lowerASCII sufInAddr = sufInAddr := by decide
  have s3 : lowerASCII sufIp6 = sufIp6 := by decide
  rcases h with h4 | h16
  · rw [reverseName, if_pos h4, lowerASCII_append, lowerASCII_append, s1, s2, rev4_eq_dotJoin, dotJoin_lower]
    exact List.forall_mem_map.mpr fun i _ => (dec_label (byteAt_lt ip i)).lower
  · rw [reverseName, if_neg (by omega), lowerASCII_append, lowerASCII_append, s1, s3, rev6_eq_dotJoin, dotJoin_lower]
    intro l hl
    obtain ⟨b, -, hl⟩ := List.mem_flatMap.mp hl
    have hb := UInt8.toNat_lt b
    simp only [nibLabels, List.mem_cons, List.not_mem_nil, or_false] at hl
    rcases hl with rfl | rfl <;> exact (nib_label (by omega)).lower

/-- the `if ip := …; len(ip) == N` loops add one record per element that parses -/
theorem foldl_addIf {α : Type} (qn : Option Bytes) (typ cls : Nat) (f : α → Option Bytes) (xs : List α) (s : BSt) :
    xs.foldl (fun s a => addIf s qn typ cls (f a)) s
      = (xs.filterMap f).foldl (fun s rd => addRR s qn typ cls (some rd)) s := by
  rw [List.foldl_filterMap]
  congr; funext s a; cases f a <;> rfl

/-- `rds.length + n < 65536`: the Builder refuses a record once the 16-bit answer count is full -/
theorem foldl_addRR (qn : Bytes) (typ cls : Nat) (abort : Bool) (rds : List Bytes) : ∀ (m : Bytes) (n : Nat),
    rds.length + n < 65536 →
    rds.foldl (fun s rd => addRR s (some qn) typ cls (some rd)) ⟨m, n, false, abort⟩
      = ⟨m ++ rds.flatMap fun rd => qn ++ be16 typ ++ be16 cls ++ be32 0 ++ be16 rd.length ++ rd,
         rds.length + n, false, abort⟩ := by
  induction rds with
  | nil => intro m n _; simp
  | cons rd rds ih =>
    intro m n h
    rw [List.length_cons] at h
    have step : addRR ⟨m, n, false, abort⟩ (some qn) typ cls (some rd)
        = ⟨m ++ qn ++ be16 typ ++ be16 cls ++ be32 0 ++ be16 rd.length ++ rd, n + 1, false, abort⟩ :=
      if_neg (show ¬ n = 65535 by omega)
    rw [List.foldl_cons, step, ih _ _ (by omega)]
    simp [Nat.add_assoc, Nat.add_comm n 1]

/-- PTR targets that all pack are added as addresses are, by `addIf` (`NewName` cannot fail,
so the loop is never left early) -/
theorem foldl_addPtr_eq (qn : Bytes) (cls : Nat) (ns : List Bytes) (hv : ∀ n ∈ ns, (packName n).isSome) :
    ∀ s : BSt, s.abort = false →
    ns.foldl (fun s n => addPtr s (some qn) cls n) s = ns.foldl (fun s n => addIf s (some qn) 12 cls (packName n)) s := by
  induction ns with
  | nil => intro _ _; rfl
  | cons n ns ih =>
    intro s ha
    obtain ⟨pn, hpn⟩ := Option.isSome_iff_exists.mp (hv n (by simp))
    have hlen : ¬ n.length > 255 := fun hh => by simp [packName, hh] at hpn
    have e : addPtr s (some qn) cls n = addIf s (some qn) 12 cls (packName n) := by
      simp [addPtr, addIf, ha, hlen, hpn]
    simp only [List.foldl_cons, e]
    exact ih (fun x hx => hv x (by simp [hx])) _ (by rw [hpn]; simp only [addIf, addRR]; split <;> exact ha)

theorem foldl_establishes {α β : Type} {f : β → α → β} {P : β → Prop} {l : List α} {x : α} (hx : x ∈ l)
    (keep : ∀ b a, P b → P (f b a)) (est : ∀ b, P (f b x)) (b : β) : P (l.foldl f b) := by
  obtain ⟨l1, l2, rfl⟩ := List.append_of_mem hx
  rw [List.foldl_append, List.foldl_cons]
  exact List.foldlRecOn l2 f (est _) fun b h a _ => keep b a h

/-- `v` is one of the values under `k` -/
def has {α : Type} (t : List (Bytes × List α)) (k : Bytes) (v : α) : Prop := v ∈ (lookupAL k t).getD []

theorem lookupAL_alAppend {α : Type} (k k' : Bytes) (v : α) (t : List (Bytes × List α)) :
    lookupAL k (alAppend k' v t)
      = if k' = k then some ((lookupAL k t).getD [] ++ [v]) else lookupAL k t := by
  induction t with
  | nil => by_cases h : k' = k <;> simp [alAppend, lookupAL, h]
  | cons e t ih =>
    obtain ⟨k0, vs⟩ := e
    by_cases h1 : k0 = k'
    · subst h1
      by_cases h2 : k0 = k
      · subst h2; simp [alAppend, lookupAL]
      · simp [alAppend, lookupAL, h2]
    · by_cases h2 : k0 = k
      · subst h2
        have : ¬ k' = k0 := fun e => h1 e.symm
        simp [alAppend, lookupAL, h1, this]
      · simp [alAppend, lookupAL, h1, h2, ih]

theorem has_alAppend_self {α : Type} (k : Bytes) (v : α) (t : List (Bytes × List α)) :
    has (alAppend k v t) k v := by
  unfold has; rw [lookupAL_alAppend]; simp

theorem has_alAppend_mono {α : Type} (k k' : Bytes) (v v' : α) (t : List (Bytes × List α))
    (h : has t k v) : has (alAppend k' v' t) k v := by
  unfold has at *
  rw [lookupAL_alAppend]
  split
  · simp; exact .inl h
  · exact h

/-- the two entries `hostsAddName` makes -/
def listed (t : HostMaps) (a : Addr) (n : Bytes) : Prop :=
  has t.1 (absName (lowerASCII n)) a ∧ has t.2 a.str (absName n)

theorem listed_addName_self (a : Addr) (t : HostMaps) (n : Bytes) : listed (hostsAddName a t n) a n :=
  ⟨has_alAppend_self _ _ _, has_alAppend_self _ _ _⟩

theorem listed_addName_mono (a a' : Addr) (t : HostMaps) (n n' : Bytes) (h : listed t a n) :
    listed (hostsAddName a' t n') a n :=
  ⟨has_alAppend_mono _ _ _ _ _ h.1, has_alAppend_mono _ _ _ _ _ h.2⟩

theorem listed_foldLine_self (a : Addr) (ns : List Bytes) (n : Bytes) (ls : List HostLine)
    (hl : (a, ns) ∈ ls) (hn : n ∈ ns) (t : HostMaps) : listed (ls.foldl hostsAddLine t) a n := by
  -- established when the line `(a, ns)` comes to the name `n`; every other step keeps it
  have keepLine : ∀ (t : HostMaps) (l : HostLine), listed t a n → listed (hostsAddLine t l) a n :=
    fun t l h => List.foldlRecOn (motive := (listed · a n)) l.2 (hostsAddName l.1) h
      fun t h n' _ => listed_addName_mono a l.1 t n n' h
  refine foldl_establishes hl keepLine (fun t => ?_) t
  exact foldl_establishes hn (fun t n' h => listed_addName_mono a a t n n' h) (fun t => listed_addName_self a t n) t

theorem lookupAL_map_other {α : Type} (k k0 : Bytes) (w : α) (t : List (Bytes × α)) (h : k0 ≠ k) :
    lookupAL k0 (t.map fun (k', v) => if k' = k then (k', w) else (k', v)) = lookupAL k0 t := by
  induction t with
  | nil => rfl
  | cons e t ih =>
    obtain ⟨k', v⟩ := e
    simp only [List.map_cons]
    by_cases h1 : k' = k
    · subst h1
      have : ¬ k' = k0 := fun e => h e.symm
      simp only [if_true, lookupAL, this, if_false]
      exact ih
    · simp only [h1, if_false, lookupAL]
      by_cases h2 : k' = k0
      · simp [h2]
      · simp only [h2, if_false]; exact ih

theorem lookupAL_append_some {α : Type} (k : Bytes) (t u : List (Bytes × α)) (v : α)
    (h : lookupAL k t = some v) : lookupAL k (t ++ u) = some v := by
  induction t with
  | nil => simp [lookupAL] at h
  | cons e t ih =>
    obtain ⟨k', v'⟩ := e
    by_cases h1 : k' = k
    · simp [lookupAL, h1] at h ⊢; exact h
    · simp [lookupAL, h1] at h ⊢; exact ih h

theorem has_hostsDflt (ns : List (Bytes × List Addr)) (k k0 : Bytes) (a : Addr) (h : has ns k0 a) :
    has (hostsDflt ns k) k0 a := by
  unfold hostsDflt
  split
  · next hemp =>
    by_cases hk : k0 = k
    · -- the default is written over an empty list only, and `h` says the list under `k0` is not empty
      subst hk
      unfold has at h
      cases hl : lookupAL k0 ns with
      | none => simp [hl] at h
      | some vs => simp [hl] at h hemp; subst hemp; simp at h
    · cases hl : lookupAL k ns with
      | some _ =>
        simp only
        unfold has
        rw [lookupAL_map_other k k0 loAddrs ns hk]
        exact h
      | none =>
        simp only
        unfold has at h ⊢
        cases hl0 : lookupAL k0 ns with
        | none => simp [hl0] at h
        | some vs => rw [lookupAL_append_some k0 ns _ vs hl0]; simpa [hl0] using h
  · exact h

/-- what a resolver slot (`nil` or a table) answers -/
def slotOut (t : Option HostTab) (q : Query) : Option Bytes := t.bind fun t => (hostsResolve t q).out

theorem slotOut_eq_none {t : Option HostTab} {q : Query} :
    slotOut t q = none ↔ ∀ t', t = some t' → (hostsResolve t' q).out = none := by
  cases t <;> simp [slotOut]

theorem slotOut_eq_some {t : Option HostTab} {q : Query} {m : Bytes} :
    slotOut t q = some m ↔ ∃ t', t = some t' ∧ (hostsResolve t' q).out = some m := by
  cases t <;> simp [slotOut]

/-- `Proxy.Resolve` (proxy/proxy.go) by what the resolver slots answer -/
theorem resolve_eq (c : Cfg) (q : Query) (up : UpRes) :
    resolve c q up =
      match slotOut c.loc q with
      | some m => ⟨m.length, false, 0, m⟩
      | none =>
        if c.bogus = true ∧ q.type = 12 ∧ isPrivateReverse q.name = true then
          match (if q.rd then slotOut c.disc q else none) with
          | some m => ⟨m.length, false, 0, m⟩
          | none => ⟨(replyRCode 3 q).length, false, 0, replyRCode 3 q⟩
        else
          match (if q.rd = true ∧ (up.n ≤ 0 ∨ isNXDomain (up.bytes.take up.n.toNat) = true)
                 then slotOut c.disc q else none) with
          | some m => ⟨m.length, false, 1, m⟩
          | none => ⟨up.n, up.err, 1, up.bytes.take up.n.toNat⟩ := by
  -- `hs`, `ho` are stated with `resolve.match_1`, the matcher Lean generated for `resolve`'s two `match`es on a resolver
  -- slot, so that `simp only` finds them after `unfold`.  An edit of `resolve` that adds or reorders `match`es can
  -- renumber it: `#print NV.resolve` shows which `resolve.match_n` takes the `Option HostTab`.
  have hs : ∀ o : Option HostTab,
      (resolve.match_1 (fun _ => HRes) o (fun t => hostsResolve t q) fun _ => ⟨none⟩).out = slotOut o q := by
    intro o; cases o <;> rfl
  have ho : ∀ (b : Bool) (o : Option HostTab),
      (if b = true then resolve.match_1 (fun _ => HRes) o (fun t => hostsResolve t q) fun _ => ⟨none⟩ else ⟨none⟩).out
        = if b = true then slotOut o q else none := by
    intro b o; cases b <;> simp [hs]
  unfold resolve
  simp only [hs, ho]
  cases slotOut c.loc q with
  | some m => rfl
  | none =>
    by_cases hb : c.bogus = true ∧ q.type = 12 ∧ isPrivateReverse q.name = true
    · simp [hb]; rfl
    · have hb' : (c.bogus && (decide (q.type = 12) && isPrivateReverse q.name)) = false := by
        rw [Bool.eq_false_iff]; simpa using hb
      have hb'' : (!c.bogus || !(decide (q.type = 12) && isPrivateReverse q.name)) = true := by
        rw [← Bool.not_and, hb']; rfl
      simp only [hb, hb', hb'', if_true, if_false, Bool.false_eq_true, Bool.and_eq_true, Bool.or_eq_true,
        decide_eq_true_eq]
      rfl
end NV
