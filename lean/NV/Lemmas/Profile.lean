/-
  The loop of `Profiles.Get` as `find?`/`filter` (`getLoop_spec`), for Props/C11.
-/
import NV.Model.Profile
namespace NV.Prof
open NV

theorem matchP_of_isDefault (p : Profile) (c : Client) (h : isDefault p = true) : matchP p c = true := by
  unfold isDefault at h
  simp only [Bool.and_eq_true, Option.isNone_iff_eq_none, beq_iff_eq] at h
  obtain ⟨⟨h1, h2⟩, h3⟩ := h
  unfold matchP
  simp [h1, h2, h3]

theorem matchP_nilClient (p : Profile) : matchP p nilClient = isDefault p := by
  unfold matchP nilClient isDefault
  cases p.pfx
  · cases p.mac <;> cases p.dest <;> rfl
  · rfl

theorem getLoop_spec (ps : List Profile) (c : Client) (d : Bytes) :
    getLoop ps c d =
      match ps.find? fun p => conditional p && matchP p c with
      | some p => p.id
      | none =>
        match (ps.filter isDefault).getLast? with
        | some p => p.id
        | none => d := by
  fun_induction getLoop ps c d with
  | case1 => rfl
  | case2 p ps c d hm hd ih =>
    rw [ih, List.find?_cons_of_neg (by simp [conditional, hd]), List.filter_cons_of_pos hd, List.getLast?_cons]
    cases (List.filter isDefault ps).getLast? <;> rfl
  | case3 p ps c d hm hd =>
    rw [List.find?_cons_of_pos (by simp [conditional, hd, hm])]
  | case4 p ps c d hm ih =>
    -- an entry that does not match is not unconditional
    rw [ih, List.find?_cons_of_neg (by simp [hm]), List.filter_cons_of_neg]
    exact fun hd => hm (matchP_of_isDefault p c hd)

theorem find?_conditional_none (ps : List Profile) (c : Client)
    (h : ∀ q ∈ ps, isDefault q = false → matchP q c = false) :
    ps.find? (fun p => conditional p && matchP p c) = none :=
  List.find?_eq_none.2 fun q hq => by
    cases hd : isDefault q
    · simp [h q hq hd]
    · simp [conditional, hd]

end NV.Prof
