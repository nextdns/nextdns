/-
  NV.Model.CFG — resource-balance certificates over control-flow graphs regenerated from the
  Go source by /verif/extract (go/cfg).

  A `Prog` is the CFG of one Go function projected on ONE counted resource (a semaphore unit, a
  mutex in one mode): blocks carry the resource events in program order, edges are the CFG edges.
  State = (held, deferred): units held by this thread, and releases registered with `defer`.
  A certificate gives the state at the entry of every block; `check` verifies it locally
  (entry state, every edge, every exit, no release of something not held, `need` satisfied).
  `cert_sound` lifts the local check to EVERY path of any length (loops unbounded), by induction.

  `strict` additionally demands `held = deferred` at every point where a deferred release is
  installed: a panic at any such point unwinds through the deferred function and is balanced
  (handler closures with `recover`).
-/
namespace NV.CFG

inductive Ev where
  | acq        -- acquire one unit (channel send on the semaphore, Lock/RLock)
  | rel        -- release one unit (channel receive, Unlock/RUnlock)
  | spawn      -- `go func(){…}()` that takes over one unit from this thread
  | deferRel   -- `defer` of a function that releases one unit
  | need       -- call of a function that requires the unit to be held (…Locked callee)
  | nop
  deriving Repr, DecidableEq, Inhabited

abbrev St := Int × Int   -- (held, deferred)

def Ev.apply : Ev → St → St
  | .acq, (h, d) => (h + 1, d)
  | .rel, (h, d) => (h - 1, d)
  | .spawn, (h, d) => (h - 1, d)
  | .deferRel, (h, d) => (h, d + 1)
  | .need, s => s
  | .nop, s => s

/-- is the state acceptable right after event `e`? -/
def Ev.okAfter (strict : Bool) (e : Ev) (s : St) : Bool :=
  let s' := e.apply s
  decide (0 ≤ s'.1) && (e != .need || decide (1 ≤ s.1)) &&
    (!strict || decide (s'.2 = 0) || decide (s'.1 = s'.2))

def runEvs (evs : List Ev) (s : St) : St := evs.foldl (fun s e => e.apply s) s

def evsOk (strict : Bool) : List Ev → St → Bool
  | [], _ => true
  | e :: es, s => e.okAfter strict s && evsOk strict es (e.apply s)

theorem Ev.okAfter_iff {strict : Bool} {e : Ev} {s : St} :
    e.okAfter strict s = true ↔
      0 ≤ (e.apply s).1 ∧ (e = .need → 1 ≤ s.1) ∧
        (strict = true → (e.apply s).2 = 0 ∨ (e.apply s).1 = (e.apply s).2) := by
  simp only [Ev.okAfter, Bool.and_eq_true, Bool.or_eq_true, decide_eq_true_eq, Bool.not_eq_true', bne_iff_ne, ne_eq,
    and_assoc]
  cases strict <;> simp [Decidable.imp_iff_not_or]

theorem Ev.held_of_okAfter {strict : Bool} {e : Ev} {s : St} (h : e.okAfter strict s = true)
    (he : e = .need ∨ e = .rel ∨ e = .spawn) : 1 ≤ s.1 := by
  obtain ⟨hnn, hneed, _⟩ := Ev.okAfter_iff.mp h
  obtain ⟨held, d⟩ := s
  rcases he with rfl | rfl | rfl
  · exact hneed rfl
  · have : 0 ≤ held - 1 := hnn; omega
  · have : 0 ≤ held - 1 := hnn; omega

theorem evsOk_prefix (strict : Bool) :
    ∀ (pre : List Ev) (e : Ev) (post : List Ev) (s : St),
      evsOk strict (pre ++ e :: post) s = true → e.okAfter strict (runEvs pre s) = true := by
  intro pre
  induction pre with
  | nil => intro e post s h; simp only [List.nil_append, evsOk, Bool.and_eq_true] at h; exact h.1
  | cons a pre ih =>
    intro e post s h
    simp only [List.cons_append, evsOk, Bool.and_eq_true] at h
    exact ih e post (a.apply s) h.2

theorem runEvs_inv {P : St → Prop} {evs : List Ev} (h : ∀ e ∈ evs, ∀ s, P s → P (e.apply s)) :
    ∀ s, P s → P (runEvs evs s) :=
  fun _ hs => List.foldlRecOn evs _ hs fun s hs e he => h e he s hs

structure Block where
  evs : List Ev
  succs : List Nat
  deriving Repr, Inhabited

abbrev Prog := List Block
abbrev Cert := List St

def checkBlock (strict : Bool) (cert : Cert) (i : Nat) (b : Block) : Bool :=
  match cert[i]? with
  | none => false
  | some s0 =>
    evsOk strict b.evs s0 &&
    (let s1 := runEvs b.evs s0
     if b.succs.isEmpty then decide (s1.1 = s1.2)
     else b.succs.all fun j => cert[j]? == some s1)

def checkFrom (strict : Bool) (cert : Cert) : Nat → List Block → Bool
  | _, [] => true
  | i, b :: bs => checkBlock strict cert i b && checkFrom strict cert (i + 1) bs

/-- the whole certificate check (decidable, evaluated by `decide` on the generated programs) -/
def check (strict : Bool) (p : Prog) (cert : Cert) (init : St) : Bool :=
  (cert[0]? == some init) && checkFrom strict cert 0 p

/-- `Reach p init i s`: some path of the CFG from the entry block reaches the ENTRY of block `i`
in state `s`. -/
inductive Reach (p : Prog) (init : St) : Nat → St → Prop where
  | entry : Reach p init 0 init
  | step {i j : Nat} {s : St} {b : Block} :
      Reach p init i s → p[i]? = some b → j ∈ b.succs → Reach p init j (runEvs b.evs s)

/-! ### leak-tolerant variant

For resources that may be dropped (a pooled buffer still owned at `return` goes to the garbage
collector): an exit is acceptable when the deferred releases do not exceed what is held. The
per-event conditions (no release of something not held, `need` satisfied, `strict`) are the same. -/

def checkBlockL (strict : Bool) (cert : Cert) (i : Nat) (b : Block) : Bool :=
  match cert[i]? with
  | none => false
  | some s0 =>
    evsOk strict b.evs s0 &&
    (let s1 := runEvs b.evs s0
     if b.succs.isEmpty then decide (s1.2 ≤ s1.1)
     else b.succs.all fun j => cert[j]? == some s1)

def checkFromL (strict : Bool) (cert : Cert) : Nat → List Block → Bool
  | _, [] => true
  | i, b :: bs => checkBlockL strict cert i b && checkFromL strict cert (i + 1) bs

def checkL (strict : Bool) (p : Prog) (cert : Cert) (init : St) : Bool :=
  (cert[0]? == some init) && checkFromL strict cert 0 p

/-! ### soundness, once for both checks

`check` and `checkL` differ only in what they ask of an exit block. `Local` is what either establishes,
with that test left open: the entry state is certified and every block passes its local test. -/

/-- `checkBlock` and `checkBlockL` with the exit test a parameter: each is this one at its own exit test, by `rfl`
(`Local.of_check`, `Local.of_checkL`). -/
def checkBlockG (exitOk : St → Bool) (strict : Bool) (cert : Cert) (i : Nat) (b : Block) : Bool :=
  match cert[i]? with
  | none => false
  | some s0 =>
    evsOk strict b.evs s0 &&
    (let s1 := runEvs b.evs s0
     if b.succs.isEmpty then exitOk s1 else b.succs.all fun j => cert[j]? == some s1)

structure Local (exitOk : St → Bool) (strict : Bool) (p : Prog) (cert : Cert) (init : St) : Prop where
  entry : cert[0]? = some init
  block : ∀ i b, p[i]? = some b → checkBlockG exitOk strict cert i b = true

/-- `checkFrom` and `checkFromL` are both "`f` holds of every block, counted from `k`" -/
theorem allFrom_get {f : Nat → Block → Bool} {g : Nat → List Block → Bool}
    (hcons : ∀ k b bs, g k (b :: bs) = (f k b && g (k + 1) bs)) :
    ∀ (bs : List Block) (k i : Nat) (b : Block), g k bs = true → bs[i]? = some b → f (k + i) b = true
  | [], _, _, _, _, h => by simp at h
  | b0 :: bs, k, 0, b, hc, hg => by
    rw [hcons, Bool.and_eq_true] at hc
    cases Option.some.inj hg
    exact hc.1
  | b0 :: bs, k, n + 1, b, hc, hg => by
    rw [hcons, Bool.and_eq_true] at hc
    have := allFrom_get hcons bs (k + 1) n b hc.2 (by simpa using hg)
    rwa [show k + (n + 1) = k + 1 + n by omega]

theorem Local.of_check {strict : Bool} {p : Prog} {cert : Cert} {init : St}
    (h : check strict p cert init = true) : Local (fun s => decide (s.1 = s.2)) strict p cert init := by
  simp only [check, Bool.and_eq_true, beq_iff_eq] at h
  exact ⟨h.1, fun i b hb => Nat.zero_add i ▸ allFrom_get (f := checkBlock strict cert) (fun _ _ _ => rfl) p 0 i b h.2 hb⟩

theorem Local.of_checkL {strict : Bool} {p : Prog} {cert : Cert} {init : St}
    (h : checkL strict p cert init = true) : Local (fun s => decide (s.2 ≤ s.1)) strict p cert init := by
  simp only [checkL, Bool.and_eq_true, beq_iff_eq] at h
  exact ⟨h.1, fun i b hb => Nat.zero_add i ▸ allFrom_get (f := checkBlockL strict cert) (fun _ _ _ => rfl) p 0 i b h.2 hb⟩

section sound
variable {exitOk : St → Bool} {strict : Bool} {p : Prog} {cert : Cert} {init : St}
  (h : Local exitOk strict p cert init)
include h

theorem Local.sound : ∀ i s, Reach p init i s → cert[i]? = some s := by
  intro i s hr
  induction hr with
  | entry => exact h.entry
  | @step i j s b _ hb hj ih =>
    have hc := h.block i b hb
    have hne : b.succs.isEmpty = false := List.isEmpty_eq_false_iff_exists_mem.mpr ⟨j, hj⟩
    simp only [checkBlockG, ih, hne, Bool.and_eq_true, Bool.false_eq_true, ↓reduceIte, List.all_eq_true] at hc
    simpa using hc.2 j hj

theorem Local.exit {i : Nat} {s : St} {b : Block} (hr : Reach p init i s) (hb : p[i]? = some b)
    (hexit : b.succs = []) : exitOk (runEvs b.evs s) = true := by
  have hc := h.block i b hb
  simp only [checkBlockG, h.sound i s hr, Bool.and_eq_true, hexit] at hc
  simpa using hc.2

theorem Local.block_evsOk {i : Nat} {s : St} {b : Block} (hr : Reach p init i s) (hb : p[i]? = some b) :
    evsOk strict b.evs s = true := by
  have hc := h.block i b hb
  simp only [checkBlockG, h.sound i s hr, Bool.and_eq_true] at hc
  exact hc.1

theorem Local.point {i : Nat} {s : St} {b : Block} (hr : Reach p init i s) (hb : p[i]? = some b)
    {pre post : List Ev} {e : Ev} (hsplit : b.evs = pre ++ e :: post) : e.okAfter strict (runEvs pre s) = true :=
  evsOk_prefix strict pre e post s (hsplit ▸ h.block_evsOk hr hb)

end sound

/-- **soundness**: a locally consistent certificate describes the state at the entry of every
block on every path, however long. -/
theorem cert_sound (strict : Bool) (p : Prog) (cert : Cert) (init : St)
    (h : check strict p cert init = true) :
    ∀ i s, Reach p init i s → cert[i]? = some s :=
  (Local.of_check h).sound

/-- every exit (a block without successors: `return`, end of function) is reached balanced:
everything acquired on the way was released, handed to a spawned handler, or is covered by an
installed deferred release. -/
theorem exit_balanced (strict : Bool) (p : Prog) (cert : Cert) (init : St)
    (h : check strict p cert init = true) (i : Nat) (s : St) (b : Block)
    (hr : Reach p init i s) (hb : p[i]? = some b) (hexit : b.succs = []) :
    (runEvs b.evs s).1 = (runEvs b.evs s).2 := by
  simpa using (Local.of_check h).exit hr hb hexit

/-- at an exit nothing more is given back than is held (no double release through `defer`) -/
theorem exit_no_excessL (strict : Bool) (p : Prog) (cert : Cert) (init : St)
    (h : checkL strict p cert init = true) (i : Nat) (s : St) (b : Block)
    (hr : Reach p init i s) (hb : p[i]? = some b) (hexit : b.succs = []) :
    (runEvs b.evs s).2 ≤ (runEvs b.evs s).1 := by
  simpa using (Local.of_checkL h).exit hr hb hexit

/-- at every program point of every path (`Ev.okAfter_iff`): the counter never goes negative (no release
of a unit that is not held), every `need` finds the unit held, and — for `strict` programs — once a
deferred release is installed the thread holds exactly what the deferred functions give back. -/
theorem point_ok (strict : Bool) (p : Prog) (cert : Cert) (init : St)
    (h : check strict p cert init = true) (i : Nat) (s : St) (b : Block)
    (hr : Reach p init i s) (hb : p[i]? = some b) (pre : List Ev) (e : Ev) (post : List Ev)
    (hsplit : b.evs = pre ++ e :: post) :
    e.okAfter strict (runEvs pre s) = true :=
  (Local.of_check h).point hr hb hsplit

theorem point_okL (strict : Bool) (p : Prog) (cert : Cert) (init : St)
    (h : checkL strict p cert init = true) (i : Nat) (s : St) (b : Block)
    (hr : Reach p init i s) (hb : p[i]? = some b) (pre : List Ev) (e : Ev) (post : List Ev)
    (hsplit : b.evs = pre ++ e :: post) :
    e.okAfter strict (runEvs pre s) = true :=
  (Local.of_checkL h).point hr hb hsplit

/-- what `init` has and every event keeps holds at every block entry, and (`point_inv`) inside the blocks -/
theorem reach_inv {P : St → Prop} {p : Prog} {init : St}
    (h : ∀ b ∈ p, ∀ e ∈ b.evs, ∀ s, P s → P (e.apply s)) (h0 : P init) :
    ∀ i s, Reach p init i s → P s := by
  intro i s hr
  induction hr with
  | entry => exact h0
  | step _ hb _ ih => exact runEvs_inv (h _ (List.mem_of_getElem? hb)) _ ih

theorem point_inv {P : St → Prop} {p : Prog} {init : St}
    (h : ∀ b ∈ p, ∀ e ∈ b.evs, ∀ s, P s → P (e.apply s)) (h0 : P init) {i : Nat} {s : St} {b : Block}
    (hr : Reach p init i s) (hb : p[i]? = some b) {pre post : List Ev} (hsplit : b.evs = pre ++ post) :
    P (runEvs pre s) :=
  runEvs_inv (fun e he => h b (List.mem_of_getElem? hb) e (hsplit ▸ List.mem_append_left post he)) s (reach_inv h h0 i s hr)

def noDefer (p : Prog) : Bool := p.all fun b => !b.evs.contains .deferRel

/-- without `defer` the second component stays `init.2`, and a balanced exit has it as its count:
every path to an exit has run exactly `init.2 - init.1` more acquires than releases. -/
theorem exit_held_of_noDefer {strict : Bool} {p : Prog} {cert : Cert} {init : St}
    (h : check strict p cert init = true) (hq : noDefer p = true) {i : Nat} {s : St} {b : Block}
    (hr : Reach p init i s) (hb : p[i]? = some b) (hexit : b.succs = []) :
    (runEvs b.evs s).1 = init.2 := by
  have keep : ∀ b ∈ p, ∀ e ∈ b.evs, ∀ s : St, s.2 = init.2 → (e.apply s).2 = init.2 := by
    intro b hb e he s hs
    have hne : e ≠ .deferRel := by
      rintro rfl
      simpa [noDefer, he] using List.all_eq_true.mp hq b hb
    cases e with
    | deferRel => exact absurd rfl hne
    | _ => exact hs
  rw [exit_balanced _ _ _ _ h i s b hr hb hexit]
  exact point_inv keep rfl hr hb (List.append_nil b.evs).symm

end NV.CFG
