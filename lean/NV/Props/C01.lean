/-
  C01 — every well-formed query gets exactly one faithful reply.

  "Exactly one": `exactly_one_write`, from the regenerated CFGs of the two handler closures.
  "Faithful": the reply is a function of this handler's own query and outcome (`udpReply q o`,
  `tcpReply q o`; what function, `tcp_reply_faithful` … `servfail_shape` say) PROVIDED no other goroutine
  writes into this handler's buffers. That is `pool_cert_ok` (regenerated ownership certificates of every
  pooled buffer variable: used and put back only while owned, on every path) + `pool_no_alias` (a
  `sync.Pool` used with that discipline never has two holders of one buffer, in any interleaving);
  `double_put_aliases` shows what the discipline excludes. Also exercised by `sockconc`.
  `NV.C01Stream`: TCP framing (`splitFrames`).
-/
import NV.Model.TcpStream
import NV.Model.Reply
import NV.Model.CFG
import NV.Gen.ProxyCFG
import NV.Lemmas.Pool
import NV.Lemmas.ReplyName
import NV.Lemmas.Wire
import NV.Lemmas.Reply
namespace NV.C01
open NV NV.CFG NV.Gen

-- an entry `e` of `allWrites` / `allPools`: (name, program `e.2.1`, certificate `e.2.2.1`, entry state `e.2.2.2.1`,
-- strict `e.2.2.2.2`)
theorem write_cert_ok :
    (ProxyCFG.allWrites.all fun e => check e.2.2.2.2 e.2.1 e.2.2.1 e.2.2.2.1) = true := by decide +kernel

/-- shape and non-vacuity: both handlers start at (written = 0, expected = 1), never
change the expectation, and contain a write. -/
theorem write_nonvacuous :
    (ProxyCFG.allWrites.all fun e => e.2.2.2.1 == ((0, 1) : St)) = true ∧
    (ProxyCFG.allWrites.all fun e => noDefer e.2.1) = true ∧
    (ProxyCFG.serveUDP_handler0_write.any fun b => b.evs.contains .acq) = true ∧
    (ProxyCFG.serveTCPConn_handler0_write.any fun b => b.evs.contains .acq) = true ∧
    ProxyCFG.allWrites.length = 2 := by decide

/-- **C01 (exactly one reply)**: on every path of either handler closure from its entry to a
normal exit, exactly one write to the client has happened. -/
theorem exactly_one_write (e : String × Prog × Cert × St × Bool) (he : e ∈ ProxyCFG.allWrites)
    (i : Nat) (s : St) (b : Block) (hr : Reach e.2.1 e.2.2.2.1 i s) (hb : e.2.1[i]? = some b)
    (hexit : b.succs = []) : (runEvs b.evs s).1 = 1 := by
  -- no `defer` in the projection and the expectation is 1 at the entry, so it is 1 at every exit
  obtain ⟨hinit, hnd, _⟩ := write_nonvacuous
  rw [exit_held_of_noDefer (List.all_eq_true.mp write_cert_ok e he) (List.all_eq_true.mp hnd e he) hr hb hexit,
    eq_of_beq (List.all_eq_true.mp hinit e he)]

/-- **C01 (TCP faithful)**: an upstream message of 1..65535 bytes is framed unchanged. -/
theorem tcp_reply_faithful (q : Query) (m : Bytes) (h1 : 1 ≤ m.length) (h2 : m.length ≤ 65535) :
    tcpReply q (.bytes m) = be16 m.length ++ m := by
  rw [tcpReply_eq, resolved_bytes q m h1 h2]

/-- **C01 (UDP faithful)**: the datagram is a prefix of the upstream message, except possibly
byte 2 (whose TC bit the proxy may set). -/
theorem udp_reply_faithful (q : Query) (m : Bytes) (h1 : 1 ≤ m.length) (h2 : m.length ≤ 65535)
    (i : Nat) (hi : i < (udpReply q (.bytes m)).length) (hne : i ≠ 2) :
    (udpReply q (.bytes m))[i]? = m[i]? := by
  rw [udpReply_eq, resolved_bytes q m h1 h2] at hi ⊢
  rw [List.length_take, ite_setTC_length] at hi
  rw [List.getElem?_take, if_pos (Nat.lt_of_lt_of_le hi (Nat.min_le_left _ _))]
  split
  · exact List.getElem?_set_ne (Ne.symm hne)
  · rfl

/-- byte 2 differs from the upstream's at most in the TC bit -/
theorem udp_reply_byte2 (q : Query) (m : Bytes) (h1 : 1 ≤ m.length) (h2 : m.length ≤ 65535)
    (h3 : 2 < (udpReply q (.bytes m)).length) :
    byteAt (udpReply q (.bytes m)) 2 = byteAt m 2 ∨ byteAt (udpReply q (.bytes m)) 2 = byteAt m 2 ||| 2 := by
  rw [udpReply_eq, resolved_bytes q m h1 h2] at h3 ⊢
  rw [List.length_take, ite_setTC_length] at h3
  rw [byteAt_take _ (Nat.lt_of_lt_of_le h3 (Nat.min_le_left _ _))]
  split
  · exact .inr (byteAt_setTC m (Nat.lt_of_lt_of_le h3 (Nat.min_le_right _ _)))
  · exact .inl rfl

/-- **C01 (SERVFAIL exactly on failure)** -/
theorem servfail_when_failed (q : Query) :
    resolved q .error = replyRCode 2 q ∧
    (∀ m : Bytes, (m.length = 0 ∨ m.length > 65535) → resolved q (.bytes m) = replyRCode 2 q) := by
  refine ⟨rfl, ?_⟩
  intro m h
  unfold resolved maxTCPSize
  dsimp only
  rw [if_pos h]

theorem upstream_when_ok (q : Query) (m : Bytes) (h1 : 1 ≤ m.length) (h2 : m.length ≤ 65535) :
    resolved q (.bytes m) = m :=
  resolved_bytes q m h1 h2

/-- **C01 (SERVFAIL shape)**: ID of the query, QR=1 with RCODE=2 (0x8002), zero answer counts. -/
theorem servfail_shape (q : Query) (hid : q.id < 65536) :
    (replyRCode 2 q).take 4 = be16 q.id ++ [0x80, 0x02] ∧
    rd16 (replyRCode 2 q) 0 = q.id ∧ rd16 (replyRCode 2 q) 6 = 0 ∧ rd16 (replyRCode 2 q) 8 = 0 ∧
    rd16 (replyRCode 2 q) 10 = 0 := by
  obtain ⟨h4, h0, hcounts⟩ := replyRCode_shape 2 q
  exact ⟨h4, h0 hid, hcounts⟩

open NV.Spec in
/-- **C01 (ID and question of locally built replies)**: for EVERY well-formed query (any ID, flags,
labels of 1..63 bytes without a dot, type, class, records before the OPT record, EDNS options), the
reply the proxy builds itself when resolution fails (`replyRCode`, also used for NXDOMAIN and empty
answers) is exactly: the query's ID, QR=1 with the RCODE, one question — the query's name, type and
class byte for byte — and nothing else. (Labels containing '.' are the recorded finding: the text
form of the name loses where the label ends.) -/
theorem local_reply_id_question (m : QueryMsg) (hwf : m.WF) (hdot : ∀ l ∈ m.qname, (46 : UInt8) ∉ l)
    (rcode : Nat) :
    ∃ q, parse (encode m) = .done .ok q ∧
      replyRCode rcode q = be16 m.id ++ be16 (32768 + rcode) ++ be16 1 ++ be16 0 ++ be16 0 ++ be16 0 ++
        encLabels m.qname ++ be16 m.qtype ++ be16 m.qcls := by
  refine ⟨_, parse_encode m hwf, ?_⟩
  have hf := applyOpts_fixed (optsFrom (upToOpts m).length m.opts) (q0 m (encode m))
  unfold replyRCode
  rw [hf.1, hf.2.1, hf.2.2.1, hf.2.2.2]
  simp only [q0]
  rw [packName_shown m.qname hwf.qname hdot]

open NV.Spec in
/-- with `servfail_when_failed`: a failed resolution of such a query is answered with that message -/
theorem servfail_reply_id_question (m : QueryMsg) (hwf : m.WF) (hdot : ∀ l ∈ m.qname, (46 : UInt8) ∉ l) :
    ∃ q, parse (encode m) = .done .ok q ∧
      resolved q .error = be16 m.id ++ be16 (32768 + 2) ++ be16 1 ++ be16 0 ++ be16 0 ++ be16 0 ++
        encLabels m.qname ++ be16 m.qtype ++ be16 m.qcls := by
  obtain ⟨q, hq, hr⟩ := local_reply_id_question m hwf hdot 2
  exact ⟨q, hq, (servfail_when_failed q).1.trans hr⟩

open NV.Spec in
example : (⟨7, 256, [[119, 119, 119], [101, 120]], 1, 1, [], 1232, 0, []⟩ : QueryMsg).WF ∧
    (∀ l ∈ ([[119, 119, 119], [101, 120]] : List Bytes), (46 : UInt8) ∉ l) := by
  refine ⟨⟨by decide, by decide, by decide, by decide, by decide, by simp, by decide, by decide, by decide, by simp, by decide⟩, by decide⟩

/-- **C01 (regenerated)**: every pooled-buffer variable of `serveUDP`, `serveTCPConn` and their
handler closures passes the ownership certificate: on EVERY path the buffer is read, written,
sliced, put back or handed to a goroutine only while this goroutine owns it; a handler owns the
query buffer from its first instruction; what a deferred function puts back is owned at every
point where a panic could unwind (`strict`); nothing is put back twice. -/
theorem pool_cert_ok :
    (ProxyCFG.allPools.all fun e => checkL e.2.2.2.2 e.2.1 e.2.2.1 e.2.2.2.1) = true := by decide +kernel

/-- the extraction is not vacuous: two variables per transport (query buffer in the listener loop
and in the handler, reply buffer in the handler), the loops take buffers from the pool, use them
and hand them to handlers, the handlers use them and put them back in a deferred function. -/
theorem pool_nonvacuous :
    ProxyCFG.allPools.length = 6 ∧
    (ProxyCFG.pool_serveUDP_buf.any fun b => b.evs.contains .acq) = true ∧
    (ProxyCFG.pool_serveUDP_buf.any fun b => b.evs.contains .spawn) = true ∧
    (ProxyCFG.pool_serveUDP_buf.any fun b => b.evs.contains .need) = true ∧
    (ProxyCFG.pool_serveUDP_buf.any fun b => b.evs.contains .rel) = true ∧
    (ProxyCFG.pool_serveTCPConn_buf.any fun b => b.evs.contains .acq) = true ∧
    (ProxyCFG.pool_serveTCPConn_buf.any fun b => b.evs.contains .spawn) = true ∧
    (ProxyCFG.pool_serveUDP_handler0_buf.any fun b => b.evs.contains .need) = true ∧
    (ProxyCFG.pool_serveUDP_handler0_buf.any fun b => b.evs.contains .deferRel) = true ∧
    (ProxyCFG.pool_serveUDP_handler0_rbuf.any fun b => b.evs.contains .acq) = true ∧
    (ProxyCFG.pool_serveUDP_handler0_rbuf.any fun b => b.evs.contains .need) = true ∧
    (ProxyCFG.pool_serveUDP_handler0_rbuf.any fun b => b.evs.contains .deferRel) = true ∧
    (ProxyCFG.pool_serveTCPConn_handler0_buf.any fun b => b.evs.contains .deferRel) = true ∧
    (ProxyCFG.pool_serveTCPConn_handler0_rbuf.any fun b => b.evs.contains .need) = true ∧
    ProxyCFG.pool_serveUDP_handler0_buf_init = (1, 0) ∧ ProxyCFG.pool_serveUDP_handler0_rbuf_init = (0, 0) ∧
    ProxyCFG.pool_serveUDP_handler0_buf_strict = true ∧ ProxyCFG.pool_serveTCPConn_handler0_buf_strict = true := by
  decide

/-- lifted to every program point of every path (any number of loop iterations): a use (`need`),
a `Put` (`rel`) or a hand-over (`spawn`) of a pooled buffer happens only while it is owned. -/
theorem pool_use_owned (e : String × Prog × Cert × St × Bool) (he : e ∈ ProxyCFG.allPools)
    (i : Nat) (s : St) (b : Block) (pre post : List Ev) (ev : Ev)
    (hr : Reach e.2.1 e.2.2.2.1 i s) (hb : e.2.1[i]? = some b) (hsplit : b.evs = pre ++ ev :: post)
    (hev : ev = .need ∨ ev = .rel ∨ ev = .spawn) : 1 ≤ (runEvs pre s).1 :=
  Ev.held_of_okAfter (point_okL _ _ _ _ (List.all_eq_true.mp pool_cert_ok e he) i s b hr hb pre ev post hsplit) hev

/-- nothing is put back twice through a deferred function: at every exit the deferred `Put`s do
not exceed what is owned -/
theorem pool_no_double_put_at_exit (e : String × Prog × Cert × St × Bool) (he : e ∈ ProxyCFG.allPools)
    (i : Nat) (s : St) (b : Block) (hr : Reach e.2.1 e.2.2.2.1 i s) (hb : e.2.1[i]? = some b)
    (hexit : b.succs = []) : (runEvs b.evs s).2 ≤ (runEvs b.evs s).1 :=
  exit_no_excessL _ _ _ _ (List.all_eq_true.mp pool_cert_ok e he) i s b hr hb hexit

open NV.Pool in
/-- **C01 (never another client's answer)**: in every interleaving of any number of goroutines
that take buffers from the pool, put back / hand over / drop only buffers they hold (the discipline
`pool_use_owned` establishes for the real handlers), no buffer ever has two holders, and a pooled
buffer has none: the bytes a handler reads its query from and writes its reply to are touched by
no other handler. -/
theorem pool_no_alias (os : List Op) (s : S) (hd : allDisciplined init os = true)
    (hr : run init os = some s) (b : Nat) :
    (s.holders b).length ≤ 1 ∧ (s.inPool b = true → s.holders b = []) := by
  have hi := inv_run os init s inv_init hd hr
  exact ⟨hi.1 b, hi.2.1 b⟩

open NV.Pool in
/-- what the discipline excludes: a buffer put back twice (by its handler and again by a goroutine
that no longer holds it, e.g. a per-connection `defer Put` beside the handlers' own) is handed to
two clients' handlers at once -/
theorem double_put_aliases :
    ∃ s, run init [.new 1, .put 1 0, .get 2 0, .put 1 0, .get 3 0] = some s ∧ s.holders 0 = [3, 2] ∧
      allDisciplined init [.new 1, .put 1 0, .get 2 0, .put 1 0, .get 3 0] = false :=
  ⟨_, rfl, rfl, rfl⟩

open NV.Pool in
example : ∃ s, run init [.new 1, .hand 1 2 0, .new 2, .put 2 0, .put 2 1, .get 3 1] = some s ∧
    allDisciplined init [.new 1, .hand 1 2 0, .new 2, .put 2 0, .put 2 1, .get 3 1] = true ∧ s.holders 1 = [3] :=
  ⟨_, rfl, rfl, rfl⟩

end NV.C01

namespace NV.C01Stream
open NV NV.TcpStream

theorem frame_len (q : Bytes) (h : q.length ≤ 65535) :
    (UInt8.ofNat (q.length / 256)).toNat * 256 + (UInt8.ofNat (q.length % 256)).toNat = q.length := by
  have hq : q.length / 256 < 256 := Nat.div_lt_of_lt_mul (Nat.lt_succ_of_le h)
  rw [UInt8.toNat_ofNat', UInt8.toNat_ofNat', Nat.mod_eq_of_lt hq, Nat.mod_eq_of_lt (Nat.mod_lt _ (by decide)),
    Nat.div_add_mod']

theorem splitFrames_frame_eq (q rest : Bytes) (h : q.length ≤ 65535) :
    splitFrames (frame q ++ rest) =
      if q.length ≤ minQuery then ([], .small) else (q :: (splitFrames rest).1, (splitFrames rest).2) := by
  rw [frame, List.cons_append, List.cons_append, splitFrames]
  simp only [frame_len q h, List.length_append, Nat.not_lt.mpr (Nat.le_add_right _ _), ↓reduceIte,
    List.take_left', List.drop_left']

/-- one well-sized frame in front of any stream is split off and the rest is treated the same way -/
theorem splitFrames_frame (q rest : Bytes) (h1 : minQuery < q.length) (h2 : q.length ≤ 65535) :
    splitFrames (frame q ++ rest) = (q :: (splitFrames rest).1, (splitFrames rest).2) := by
  rw [splitFrames_frame_eq q rest h2, if_neg (Nat.not_le.mpr h1)]

/-- **round trip**: the frames of any list of queries (each longer than 14 bytes, at most 65535) written back to back
are handed to the handlers one by one, in order, nothing else, and the connection ends cleanly -/
theorem frames_roundtrip (qs : List Bytes) (h : ∀ q ∈ qs, minQuery < q.length ∧ q.length ≤ 65535) :
    splitFrames (qs.flatMap frame) = (qs, .eof) := by
  induction qs with
  | nil => simp [splitFrames]
  | cons q qs ih =>
    have hq := h q (by simp)
    rw [List.flatMap_cons, splitFrames_frame q _ hq.1 hq.2, ih (fun x hx => h x (by simp [hx]))]

/-- a frame of at most 14 bytes (also the empty frame) ends the connection: nothing after it is handled, whatever follows -/
theorem small_frame_stops (qs : List Bytes) (small tail : Bytes)
    (h : ∀ q ∈ qs, minQuery < q.length ∧ q.length ≤ 65535) (hs : small.length ≤ minQuery) :
    splitFrames (qs.flatMap frame ++ frame small ++ tail) = (qs, .small) := by
  induction qs with
  | nil =>
    rw [List.flatMap_nil, List.nil_append,
      splitFrames_frame_eq small tail (Nat.le_trans hs (by decide)), if_pos hs]
  | cons q qs ih =>
    have hq := h q (by simp)
    rw [List.flatMap_cons, List.append_assoc, List.append_assoc, splitFrames_frame q _ hq.1 hq.2]
    rw [← List.append_assoc, ih (fun x hx => h x (by simp [hx]))]

/-- every frame that reaches a handler is longer than 14 bytes: it has a header, hence an ID to reply with -/
theorem handled_frames_long (s : Bytes) : ∀ f ∈ (splitFrames s).1, minQuery < f.length := by
  fun_induction splitFrames s with
  | case1 | case2 | case3 | case4 => exact fun _ h => nomatch h  -- the stream ends: no frame
  | case5 hi lo rest len hlen hmin r ih =>
    -- the frame split off is `rest.take len` with `len ≤ rest.length` and `minQuery < len`
    refine List.forall_mem_cons.mpr ⟨?_, ih⟩
    rw [List.length_take, Nat.min_eq_left (Nat.not_lt.mp hlen)]; exact Nat.not_le.mp hmin

/-- the hypotheses are satisfiable: a 15-byte message, then an EMPTY frame, then another message that is never handled -/
example : splitFrames ([List.replicate 15 (7 : UInt8)].flatMap frame ++ frame [] ++ frame (List.replicate 15 9)) =
    ([List.replicate 15 7], .small) :=
  small_frame_stops [List.replicate 15 7] [] (frame (List.replicate 15 9)) (by simp [minQuery]) (by simp [minQuery])

end NV.C01Stream
