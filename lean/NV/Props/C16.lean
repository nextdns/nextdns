/-
  C16 — serving stops cleanly and bind failures are reported, not swallowed.

  Three models, each with the regenerated facts (`gen_…`) that tie it to the source:
  * `Proxy.ListenAndServe` as a small-step system (NV.Model.Listen; ANY number of listener threads, all
    interleavings): nothing stays bound at return, the error returned is the bind error, no deadlock and
    termination after a cancellation, the bound on the `errs` channel; the protocol BEFORE the repair
    leaked (`leak_reachable_old`).
  * `(*proxySvc).Start` (NV.Model.SvcStart): a start that did not bind is never a successful start.
  * the service object under every history of Start / Stop / Restart calls and listener deaths
    (NV.Model.SvcLife; namespace `NV.C16Life`).
-/
import NV.Model.Listen
import NV.Lemmas.Listen
import NV.Gen.Listen
import NV.Model.SvcStart
import NV.Model.CFG
import NV.Gen.SvcStart
import NV.Model.SvcLife
import NV.Lemmas.SvcLife
import NV.Gen.Hooks
namespace NV.C16
open NV.Listen NV.ListSet

/-- The last clause is what the protocol before the repair broke and `no_deadlock` needs: after the sweep no
serving listener keeps an open socket. -/
def LInv (closedFlag : Bool) (l : L) : Prop :=
  (l.pc = .start ∨ l.pc = .failed ∨ l.pc = .ret ∨ l.pc = .sent ∨ l.pc = .done → l.sockOpen = false) ∧
  (l.pc = .start ∨ l.pc = .failed ∨ l.pc = .bound → l.registered = false) ∧
  (l.pc = .bound → l.sockOpen = true) ∧
  (l.pc = .serving → l.sockOpen = true → l.registered = true ∧ closedFlag = false)

/-- main's side: it leaves `waiting` only once the context is cancelled, and the flag is up exactly from the sweep on -/
def Inv (s : S) : Prop :=
  (∀ l ∈ s.ls, LInv s.closedFlag l) ∧
  (s.mpc ≠ .waiting → s.cancelled = true) ∧
  (s.mpc = .waiting ∨ s.mpc = .pushed → s.closedFlag = false) ∧
  (s.mpc ≠ .waiting ∧ s.mpc ≠ .pushed → s.closedFlag = true)

theorem inv_init (n : Nat) : Inv (init n) :=
  ⟨fun l hl => List.eq_of_mem_replicate hl ▸ by simp [LInv], by simp [init], by simp [init], by simp [init]⟩

theorem lstep_linv {cf : Bool} {l l' : L} {es : List Err} {c : Bool} (h : LStep cf l l' es c)
    (hi : LInv cf l) : LInv cf l' := by
  obtain ⟨h1, h2, -, -⟩ := hi
  cases h with
  | bindFail hp => simp [LInv, h1 (by simp [hp]), h2 (by simp [hp])]
  | bindOk hp => simp [LInv, h2 (by simp [hp])]
  | registerLate => simp [LInv]
  | register _ hc => simp [LInv, hc]
  | serveRet _ ho => simp [LInv, ho]
  | sendBind hp | sendClosed hp | cancel hp => simp [LInv, h1 (by simp [hp])]

/-- the sweep: what was registered is closed, and whoever registers from now on sees the flag -/
theorem linv_close {cf : Bool} {l : L} (h : LInv cf l) : LInv true (closeRegistered l) := by
  obtain ⟨h1, h2, h3, h4⟩ := h
  simp only [LInv, closeRegistered_eq]
  refine ⟨fun hp => by simp [h1 hp], h2, fun hp => by simp [h3 hp, h2 (.inr (.inr hp))], fun hp ho => ?_⟩
  -- open after the sweep means not registered, but a serving listener's open socket was registered
  simp only [Bool.and_eq_true, Bool.not_eq_true'] at ho
  exact absurd (h4 hp ho.1).1 (by simp [ho.2])

theorem inv_step' {s s' : S} (h : Inv s) (hs : Step s s') : Inv s' := by
  obtain ⟨hl, hm1, hm2, hm3⟩ := h
  cases hs with
  | listener _ hg hmv =>
    exact ⟨forall_mem_set hl (lstep_linv hmv (hl _ (List.mem_of_getElem? hg))) _, fun h => by simp [hm1 h], hm2, hm3⟩
  | wake hw hc => exact ⟨hl, fun _ => hc, fun _ => hm2 (.inl hw), by simp⟩
  | sweep hp =>
    exact ⟨List.forall_mem_map.2 fun l hlm => linv_close (hl l hlm), fun _ => hm1 (by simp [hp]), by simp, by simp⟩
  | collect hsw _ => exact ⟨hl, fun _ => hm1 (by simp [hsw]), by simp, fun _ => hm3 (by simp [hsw])⟩
  | stop _ => exact ⟨hl, fun _ => rfl, hm2, hm3⟩

theorem inv_step (s s' : S) (a : Act) (h : Inv s) (hs : step s a = some s') : Inv s' :=
  inv_step' h (Step.of_step hs)

theorem inv_reachable (n : Nat) (s : S) (h : Reachable n s) : Inv s :=
  h.induct (inv_init n) fun _ => inv_step'

/-- main has returned only if every listener has reported -/
def RInv (s : S) : Prop :=
  ∀ e, s.mpc = .returned e → ∀ l ∈ s.ls, l.pc = .sent ∨ l.pc = .done

theorem lstep_reported {cf : Bool} {l l' : L} {es : List Err} {c : Bool} (h : LStep cf l l' es c)
    (hr : l.pc = .sent ∨ l.pc = .done) : l'.pc = .sent ∨ l'.pc = .done := by
  cases h with
  | cancel => exact .inr rfl
  | bindFail hp | bindOk hp | registerLate hp | register hp | serveRet hp | sendBind hp | sendClosed hp =>
    simp [hp] at hr

theorem rinv_step {s s' : S} (h : RInv s) (hs : Step s s') : RInv s' := by
  intro e he
  cases hs with
  | listener _ hg hmv => exact forall_mem_set (h e he) (lstep_reported hmv (h e he _ (List.mem_of_getElem? hg))) _
  | wake | sweep => cases he
  | collect _ hall => simpa [allReported] using hall
  | stop => exact h e he

theorem rinv_reachable (n : Nat) (s : S) (h : Reachable n s) : RInv s :=
  h.induct (fun _ he => nomatch he) fun _ => rinv_step

/-- **C16 (nothing left bound)**: in every reachable state in which `ListenAndServe` has
returned, every socket it ever bound is closed — for any number of listeners and any schedule. -/
theorem all_closed_at_return (n : Nat) (s : S) (e : Err) (h : Reachable n s)
    (hret : s.mpc = .returned e) : ∀ l ∈ s.ls, l.sockOpen = false := by
  intro l hl
  have hr := rinv_reachable n s h e hret l hl
  exact ((inv_reachable n s h).1 l hl).1 (by simp [hr])

/-- a listener that has neither reported nor lost its socket -/
def Quiet (l : L) : Prop :=
  l.pc ≠ .ret ∧ l.pc ≠ .sent ∧ l.pc ≠ .done ∧ (l.pc = .bound ∨ l.pc = .serving → l.sockOpen = true)

/-- ordering invariant, as long as nobody stopped the service from outside: while nothing is queued
the context is not cancelled and every listener is quiet, so the first result queued is a bind error;
the queue only grows at its end, so it stays the first. -/
def JInv (s : S) : Prop :=
  s.stopped = false →
    ((s.errs = [] ∧ s.cancelled = false ∧ ∀ l ∈ s.ls, Quiet l) ∨ ∃ es, s.errs = .bind :: es) ∧
    ∀ e, s.mpc = .returned e → e = .bind

theorem lstep_quiet {l l' : L} {es : List Err} {c : Bool} (h : LStep false l l' es c)
    (hq : Quiet l) : (es = [] ∧ c = false ∧ Quiet l') ∨ es = [.bind] := by
  obtain ⟨h1, h2, -, h4⟩ := hq
  cases h with
  | bindFail | bindOk => exact .inl ⟨rfl, rfl, by simp [Quiet]⟩
  | registerLate _ hc => cases hc
  | register hp => exact .inl ⟨rfl, rfl, by simpa [Quiet] using h4 (.inl hp)⟩
  | serveRet hp ho => exact absurd (h4 (.inr hp)) (by simp [ho])
  | sendBind => exact .inr rfl
  | sendClosed hp => exact absurd hp h1
  | cancel hp => exact absurd hp h2

@[simp] theorem firstErr_bind (es : List Err) : firstErr (.bind :: es) = .bind := rfl

theorem jinv_step {s s' : S} (hi : Inv s) (h : JInv s) (hs : Step s s') : JInv s' := by
  obtain ⟨-, hm1, hm2, -⟩ := hi
  -- once the context is cancelled something is queued
  have hbind : s.stopped = false → s.cancelled = true → ∃ es, s.errs = .bind :: es := fun hst hc =>
    (h hst).1.resolve_left fun hA => by simp [hA.2.1] at hc
  cases hs with
  | listener _ hg hmv =>
    intro hst
    refine ⟨?_, (h hst).2⟩
    rcases (h hst).1 with ⟨he, hc, hq⟩ | ⟨es, he⟩
    · -- not cancelled, so main still waits and the flag is down
      have hcf := hm2 (.inl (Decidable.of_not_not fun hm => by simp [hm1 hm] at hc))
      rcases lstep_quiet (hcf ▸ hmv) (hq _ (List.mem_of_getElem? hg)) with ⟨rfl, rfl, hq'⟩ | rfl
      · exact .inl ⟨by simpa using he, by simpa using hc, forall_mem_set hq hq' _⟩
      · exact .inr ⟨[], by simp [he]⟩
    · exact .inr ⟨_, by rw [he]; rfl⟩
  | wake hw hc =>
    intro hst
    obtain ⟨es, he⟩ := hbind hst hc
    exact ⟨.inr ⟨_, by rw [he]; rfl⟩, nofun⟩
  | sweep hp => exact fun hst => ⟨.inr (hbind hst (hm1 (by simp [hp]))), nofun⟩
  | collect hsw _ =>
    intro hst
    obtain ⟨es, he⟩ := hbind hst (hm1 (by simp [hsw]))
    exact ⟨.inr ⟨es, he⟩, fun e hr => by cases hr; simp [he]⟩
  | stop _ => exact nofun

theorem jinv_reachable (n : Nat) (s : S) (h : Reachable n s) : JInv s :=
  h.induct (fun _ => ⟨.inl ⟨rfl, rfl, fun l hl => List.eq_of_mem_replicate hl ▸ by simp [Quiet]⟩, nofun⟩)
    fun hr => jinv_step (inv_reachable _ _ hr)

/-- **C16 (bind failures are reported)**: for any number of listeners and any schedule without an
external stop, if `ListenAndServe` returns, it returns a bind error — never `Canceled` and never
the "use of closed network connection" of a listener that was closed because of the failure. -/
theorem bind_error_reported (n : Nat) (s : S) (e : Err) (h : Reachable n s)
    (hns : s.stopped = false) (hret : s.mpc = .returned e) : e = .bind :=
  (jinv_reachable n s h hns).2 e hret

def lrank : LPc → Nat
  | .start => 6 | .failed => 2 | .bound => 4 | .serving => 3 | .ret => 2 | .sent => 1 | .done => 0

def mrank : MPc → Nat
  | .waiting => 3 | .pushed => 2 | .swept => 1 | .returned _ => 0

def lsum : List L → Nat
  | [] => 0
  | l :: ls => lrank l.pc + lsum ls

def rank (s : S) : Nat := lsum s.ls + mrank s.mpc + (if s.stopped then 0 else 1)

theorem lsum_eq_sum (ls : List L) : lsum ls = (ls.map fun l => lrank l.pc).sum := by
  induction ls with
  | nil => rfl
  | cons a as ih => simp [lsum, ih]

theorem lstep_lrank_lt {cf : Bool} {l l' : L} {es : List Err} {c : Bool} (h : LStep cf l l' es c) :
    lrank l'.pc < lrank l.pc := by
  cases h <;> simp [lrank, *]   -- each move names `l.pc` and sets `l'.pc`

/-- **C16 (termination)**: every step strictly decreases `rank` (hence at most `rank s` steps from `s`,
`6 n + 4` from `init n`: for `n > 0` no run is that long, `start => 5` would do; no theorem states it). -/
theorem steps_decrease (s s' : S) (a : Act) (hs : step s a = some s') : rank s' < rank s := by
  simp only [rank, lsum_eq_sum]
  cases Step.of_step hs with
  | listener l' hg hmv =>
    have := sum_map_set (fun l => lrank l.pc) l' hg
    have := lstep_lrank_lt hmv
    dsimp only; omega
  | wake hw _ => simp [hw, mrank]
  | sweep hp => simp [hp, mrank, Function.comp_def, closeRegistered_pc]
  | collect hsw _ => simp [hsw, mrank]
  | stop hst => simp [hst]

/-- **C16 (no deadlock)**: in every reachable state in which the context has been cancelled and
`ListenAndServe` has not yet returned, some step is enabled — for any number of listeners. With
`steps_decrease` this means: after a bind failure or a stop, serving always returns. -/
theorem no_deadlock (n : Nat) (s : S) (h : Reachable n s) (hc : s.cancelled = true)
    (hnr : ∀ e, s.mpc ≠ .returned e) : ∃ a, (step s a).isSome = true := by
  obtain ⟨hl, -, -, hm3⟩ := inv_reachable n s h
  cases hm : s.mpc with
  | waiting => exact ⟨.wake, by simp [step, hm, hc]⟩
  | pushed => exact ⟨.sweep, by simp [step, hm]⟩
  | returned e => exact absurd hm (hnr e)
  | swept =>
    cases hr : allReported s.ls with
    | true => exact ⟨.collect, by simp [step, hm, hr]⟩
    | false =>
      -- a listener that has not reported can move: the flag is up, so no socket keeps it serving
      obtain ⟨l, hmem, hp⟩ := List.all_eq_false.1 hr
      obtain ⟨i, hg⟩ := List.mem_iff_getElem?.1 hmem
      have hcf : s.closedFlag = true := hm3 (by simp [hm])
      cases hpc : l.pc with
      | start => exact ⟨.bindFail i, by simp [step, hg, hpc]⟩
      | failed | ret => exact ⟨.send i, by simp [step, hg, hpc]⟩
      | bound => exact ⟨.register i, by simp [step, hg, hpc, hcf]⟩
      | serving =>
        obtain ⟨-, -, -, hserving⟩ := hl l hmem
        have hso : l.sockOpen = false := Bool.eq_false_iff.2 fun hso => absurd (hserving hpc hso).2 (by simp [hcf])
        exact ⟨.serveRet i, by simp [step, hg, hpc, hso]⟩
      | sent | done => simp [hpc] at hp

/-- the same holds before cancellation while some listener has a bind failure to report (`failed`) or
has reported and not yet cancelled (`sent`); a fully started server legitimately waits (`serving`
everywhere). -/
theorem bind_failure_leads_to_cancel (n : Nat) (s : S) (h : Reachable n s) (i : Nat) (l : L)
    (hg : s.ls[i]? = some l) (hf : l.pc = .failed ∨ l.pc = .sent) : ∃ a, (step s a).isSome = true := by
  rcases hf with hf | hf
  · exact ⟨.send i, by simp [step, hg, hf]⟩
  · exact ⟨.cancel i, by simp [step, hg, hf]⟩

/-- one address (two listeners): UDP bind fails and cancels; main wakes, pushes and sweeps an empty
list; only then TCP binds and registers. Main now waits for a report that can never come (the TCP
socket is open, registered too late, and nothing will close it): no action is enabled for it, and
`collect` is disabled. -/
def leakSchedule : List Act :=
  [.bindFail 0, .cancel 0, .send 0, .wake, .sweep, .bindOk 1, .register 1]

theorem leak_reachable_old :
    ∃ s, runOld (init 2) leakSchedule = some s ∧
      (∃ l ∈ s.ls, l.sockOpen = true) ∧ s.cancelled = true ∧ s.mpc = .swept ∧
      (allActs 2).all (fun a => a = .stop || (stepOld s a).isNone) = true := by
  refine ⟨_, rfl, ?_, rfl, rfl, ?_⟩
  · exact ⟨_, List.mem_cons_of_mem _ (List.mem_cons_self ..), rfl⟩
  · decide

/-- … and the repaired protocol, on the corresponding schedule run to its end, closes that socket and
returns `bind`. -/
example : ∃ s, run (init 2) [.bindFail 0, .send 0, .cancel 0, .wake, .sweep, .bindOk 1, .register 1,
      .serveRet 1, .send 1, .cancel 1, .collect] = some s ∧ s.mpc = .returned .bind ∧
      s.ls.all (fun l => !l.sockOpen) = true := ⟨_, rfl, rfl, by decide⟩

/-- non-vacuity of `bind_error_reported` / `all_closed_at_return`: such a state is reachable. -/
theorem returned_reachable : ∃ s, Reachable 2 s ∧ s.stopped = false ∧ s.mpc = .returned .bind :=
  ⟨_, Reachable.init.run (as := [.bindFail 0, .send 0, .cancel 0, .wake, .sweep, .bindOk 1, .register 1,
      .serveRet 1, .send 1, .cancel 1, .collect]) rfl, rfl, rfl⟩

/-! The model's `send`/`wake` append to `errs` without ever blocking, while the real channel is buffered and
nobody drains it before the final loop: `errs_bounded` with `gen_errs_never_blocks` justifies that, and with
`gen_drain_exact` the final loop does not wait on the channel itself either. -/

def owes : LPc → Nat
  | .sent | .done => 0
  | _ => 1

/-- the results queued or still to be sent: one per listener, and main's own `ctx.Err()` -/
def results (s : S) : Nat :=
  s.errs.length + (s.ls.map fun l => owes l.pc).sum + (if s.mpc = .waiting then 1 else 0)

theorem lstep_owes_eq {cf : Bool} {l l' : L} {es : List Err} {c : Bool} (h : LStep cf l l' es c) :
    owes l.pc = owes l'.pc + es.length := by
  cases h <;> simp [owes, *]

theorem results_step {s s' : S} (hs : Step s s') : results s' = results s := by
  unfold results
  cases hs with
  | listener l' hg hmv =>
    have := sum_map_set (fun l => owes l.pc) l' hg
    have := lstep_owes_eq hmv
    simp only [List.length_append]; omega
  | wake hw _ => simp [hw]; omega
  | sweep hp => simp [hp, Function.comp_def, closeRegistered_pc]
  | collect hsw _ => simp [hsw]
  | stop _ => rfl

/-- **C16 (the result channel)**: with `n` listener threads at most `n + 1` results are ever queued,
in every reachable state of every interleaving. -/
theorem errs_bounded (n : Nat) (s : S) (h : Reachable n s) : s.errs.length ≤ n + 1 := by
  have key : results s = n + 1 :=
    h.induct (by simp [results, init, owes]) fun _ ih hs => (results_step hs).trans ih
  unfold results at key; omega

/-- the bound is reached: both listeners of one address fail and report before main pushes its own
result (the schedule on which a channel one slot short blocks main forever). -/
theorem errs_bound_reached :
    ∃ s, run (init 2) [.bindFail 0, .bindFail 1, .send 0, .send 1, .cancel 0, .wake] = some s ∧
      s.errs.length = 2 + 1 := ⟨_, rfl, rfl⟩

open NV.Gen.Listen in
/-- **C16 (regenerated)**: for any number `a` of addresses, `ListenAndServe` starts
`goroutinesPerAddr · a` listener threads, each sending exactly one result, main sends one, and the
`errs` channel holds them all: no send on `errs` can block. -/
theorem gen_errs_never_blocks (a : Nat) :
    listenerSends.length = goroutinesPerAddr ∧ listenerSends.all (· = 1) = true ∧ mainSends = 1 ∧
    goroutinesPerAddr * a + 1 ≤ errsCap.1 * a + errsCap.2 := by
  refine ⟨by decide, by decide, by decide, ?_⟩
  simp only [goroutinesPerAddr, errsCap]; omega

open NV.Gen.Listen in
/-- **C16 (regenerated)**: the final loop receives exactly as many results as are sent — one fewer
send and it would wait forever, one more and it would return with a listener still serving. -/
theorem gen_drain_exact (a : Nat) :
    drainCount.1 * a + drainCount.2 = listenerSends.sum * a + mainSends ∧ drainIsLast = true := by
  refine ⟨?_, by decide⟩
  simp only [drainCount, listenerSends, mainSends, List.sum_cons, List.sum_nil]; omega

open NV.Gen.Listen in
/-- **C16 (regenerated)**: the atomic steps of the model are in the order of the source: every
listener reports before it cancels, main pushes after `ctx.Done()` and before the sweep, `register`
tests `closed` and the sweep sets it. -/
theorem gen_protocol_order :
    listenerSendThenCancel.all id = true ∧ listenerSendThenCancel.length = goroutinesPerAddr ∧
    mainSendAfterDone = true ∧ registerTestsClosed = true ∧ sweepSetsClosed = true := by decide

section SvcStart
open NV.SvcStart

theorem svcStart_unreachable (n : Nat) (rest : List Att) :
    svcStart (List.replicate n .unreachable ++ rest) = svcStart rest := by
  induction n with
  | zero => rfl
  | succ k ih => simpa only [List.replicate_succ, List.cons_append, svcStart] using ih

/-- **C16**: Start reports success exactly when, after any number of "network unreachable"
attempts, an attempt found every listener serving — never after a failed attempt, and never by
running out of patience. -/
theorem started_iff (as : List Att) :
    svcStart as = .started ↔ ∃ n rest, as = List.replicate n .unreachable ++ .bound :: rest := by
  refine ⟨fun h => ?_, fun ⟨n, rest, h⟩ => h ▸ svcStart_unreachable n _⟩
  induction as with
  | nil => cases h
  | cons a as ih =>
    cases a with
    | bound => exact ⟨0, as, rfl⟩
    | failed => cases h
    | unreachable =>
      obtain ⟨n, rest, rfl⟩ := ih h
      exact ⟨n + 1, rest, rfl⟩

/-- the OnStarted hooks (router set-up, activation of the system resolver) run only on a start
whose last attempt bound every listener -/
theorem hooks_only_when_bound (as : List Att) (h : hooksRun as = true) :
    ∃ n rest, as = List.replicate n .unreachable ++ .bound :: rest :=
  (started_iff as).1 (by simpa [hooksRun] using h)

/-- however long the network stays unreachable, Start neither gives up with a success nor runs
a hook: it is still waiting -/
theorem unreachable_never_started (n : Nat) :
    svcStart (List.replicate n .unreachable) = .waiting ∧ hooksRun (List.replicate n .unreachable) = false := by
  have h : svcStart (List.replicate n .unreachable) = .waiting := by
    simpa [svcStart] using svcStart_unreachable n []
  exact ⟨h, by simp [hooksRun, h]⟩

/-- a bind failure of any other kind ends the start with an error after the retries so far -/
theorem failed_is_error (n : Nat) (rest : List Att) :
    svcStart (List.replicate n .unreachable ++ .failed :: rest) = .error :=
  svcStart_unreachable n _

/-- an attempt during which ListenAndServe returned an error is never counted as bound (with
`bind_error_reported`: a listener that cannot bind makes ListenAndServe return that error) -/
theorem attempt_error_not_bound (u : Bool) : attempt (some u) ≠ .bound := by cases u <;> simp [attempt]

example : svcStart [.unreachable, .unreachable, .bound] = .started ∧
    svcStart [.unreachable, .failed, .bound] = .error := by decide

open NV.CFG NV.Gen in
/-- **C16 (regenerated)**: the control-flow graph of `(*proxySvc).Start`, projected on "the last
`p.start()` returned nil" (acquired on the success edge of the test that follows the call), passes
the certificate check: on EVERY path, through any number of retries, the OnStarted hooks and
`return nil` are reached holding that fact. A retry loop that can be left without a successful attempt breaks this
obligation. -/
theorem gen_start_cert_ok :
    check SvcStart.start_strict SvcStart.start SvcStart.start_cert SvcStart.start_init = true ∧
    SvcStart.start_init = (0, 0) := by decide

open NV.CFG NV.Gen in
/-- the extraction is not vacuous: it saw the call of `p.start()`, its success edge, the hooks and
the success report -/
theorem gen_start_nonvacuous :
    1 ≤ SvcStart.startCalls ∧ 1 ≤ SvcStart.hookCalls ∧ 1 ≤ SvcStart.nilReturns ∧
    (SvcStart.start.any fun b => b.evs.contains .acq) = true ∧
    (SvcStart.start.any fun b => b.evs == [.need]) = true ∧
    (SvcStart.start.any fun b => b.evs == [.need, .rel]) = true := by decide

open NV.CFG NV.Gen in
/-- every program point of every path of Start: a hook call or a success report finds the
"attempt succeeded" fact held (lifted from the local check by `point_ok`) -/
theorem start_need_holds (i : Nat) (s : St) (b : Block) (pre post : List Ev)
    (hr : Reach SvcStart.start SvcStart.start_init i s) (hb : SvcStart.start[i]? = some b)
    (hsplit : b.evs = pre ++ Ev.need :: post) : 1 ≤ (runEvs pre s).1 :=
  Ev.held_of_okAfter (point_ok SvcStart.start_strict SvcStart.start SvcStart.start_cert SvcStart.start_init
    gen_start_cert_ok.1 i s b hr hb pre .need post hsplit) (.inl rfl)

end SvcStart

end NV.C16

namespace NV.C16Life
open NV.SvcStart NV.SvcLife

theorem good_init : Good init := by simp [Good, init]

theorem step_stop (s : St) : step s .stop =
    some (if s.stopSet then { stopSet := false, serving := false, log := s.log ++ [.down] } else s, .ok) := by
  cases h : s.stopSet <;> simp [step, stopInner, h]

theorem good_of_stopSet {s : St} (h : s.stopSet = true) : Good s := ⟨fun _ => h, fun _ => h⟩

theorem good_step (s s' : St) (o : Op) (r : Ret) (h : Good s) (hs : step s o = some (s', r)) : Good s' := by
  cases o with
  | start as =>
    obtain ⟨-, hs⟩ := Option.ite_none_left_eq_some.1 hs
    split at hs <;> cases hs
    · exact good_of_stopSet rfl   -- started
    · exact good_of_stopSet rfl   -- error
    · exact ⟨nofun, fun hl => by simp [h.2 hl]⟩   -- waiting: nothing serves, the log is unchanged
  | stop =>
    rw [step_stop] at hs
    cases hs
    cases s.stopSet with
    | true => simp [Good]
    | false => exact h
  | restart a => cases hs; exact good_of_stopSet rfl
  | die => cases hs; exact ⟨nofun, h.2⟩

/-- **every history**: whatever sequence of Start / Stop / Restart calls and listener deaths the
object has been through, a serving instance still has its cancel function, and a service whose
last hook round was the start-up round (router set up, system DNS activated) has it too. -/
theorem life_inv (ops : List Op) (s0 s : St) (h0 : Good s0) (hr : run s0 ops = some s) : Good s :=
  run_induct good_step ops s0 s h0 hr

/-- `Stop()` always returns, and after it nothing serves and the field is cleared -/
theorem stop_quiesces (s : St) (h : Good s) :
    ∃ s', step s .stop = some (s', .ok) ∧ s'.serving = false ∧ s'.stopSet = false := by
  refine ⟨_, step_stop s, ?_⟩
  cases hset : s.stopSet with
  | true => exact ⟨rfl, rfl⟩
  | false => exact ⟨Bool.eq_false_iff.2 fun hv => by simp [h.1 hv] at hset, hset⟩

/-- a second `Stop()` does nothing: the OnStopped hooks (router Restore, deactivation) do not run twice -/
theorem stop_idempotent (s s1 : St) (r : Ret) (h : step s .stop = some (s1, r)) :
    step s1 .stop = some (s1, .ok) := by
  rw [step_stop] at h ⊢
  cases h
  cases hset : s.stopSet <;> simp [hset]

/-- `Restart()` runs no hook round -/
theorem restart_keeps_log (s s' : St) (a : Att) (r : Ret) (h : step s (.restart a) = some (s', r)) :
    s'.log = s.log := by
  cases h
  show (stopInner s).1.log = s.log
  unfold stopInner; split <;> rfl

/-- **after any history, `Stop()` leaves no started-up configuration behind**: the last hook round is
never the start-up round — if it was, the shut-down round runs now. -/
theorem stop_undoes_last_up (ops : List Op) (s s' : St) (r : Ret) (hr : run init ops = some s)
    (hs : step s .stop = some (s', r)) : s'.log.getLast? ≠ some .up := by
  have hi := life_inv ops init s good_init hr
  rw [step_stop] at hs
  cases hs
  cases hset : s.stopSet with
  | true => simp
  | false => exact fun hl => by simp [hi.2 hl] at hset

theorem run_keeps (mid tail : List Op) (hmid : ∀ o ∈ mid, (∃ a, o = .restart a) ∨ o = .die) (s : St)
    (hset : s.stopSet = true) :
    ∃ s', run s (mid ++ tail) = run s' tail ∧ s'.stopSet = true ∧ s'.log = s.log := by
  induction mid generalizing s with
  | nil => exact ⟨s, rfl, hset, rfl⟩
  | cons o os ih =>
    have ⟨s1, r, hs, h1, h2⟩ : ∃ s1 r, step s o = some (s1, r) ∧ s1.stopSet = true ∧ s1.log = s.log := by
      rcases hmid o (List.mem_cons_self ..) with ⟨a, rfl⟩ | rfl
      · exact ⟨_, _, rfl, rfl, restart_keeps_log s _ a _ rfl⟩
      · exact ⟨_, _, rfl, hset, rfl⟩
    obtain ⟨s', hr, h3, h4⟩ := ih (fun o ho => hmid o (List.mem_cons_of_mem _ ho)) s1 h1
    exact ⟨s', by simp only [List.cons_append, run, hs, hr], h3, h4.trans h2⟩

/-- a started service that went through any number of restarts and listener deaths, then `Stop()`:
exactly one start-up round and one shut-down round, in that order; nothing serves. -/
theorem start_restarts_stop (n : Nat) (rest : List Att) (mid : List Op)
    (hmid : ∀ o ∈ mid, (∃ a, o = .restart a) ∨ o = .die) :
    ∃ s, run init (.start (List.replicate n .unreachable ++ .bound :: rest) :: mid ++ [.stop]) = some s ∧
      s.log = [.up, .down] ∧ s.serving = false ∧ s.stopSet = false := by
  have h0 : step init (.start (List.replicate n .unreachable ++ .bound :: rest)) =
      some ({ stopSet := true, serving := true, log := [.up] }, .ok) := by
    simp [step, init, NV.C16.svcStart_unreachable, svcStart]
  obtain ⟨s, hr, hset, hlog⟩ := run_keeps mid [.stop] hmid { stopSet := true, serving := true, log := [.up] } rfl
  exact ⟨{ stopSet := false, serving := false, log := [.up, .down] },
    by simp [run, h0, hr, step_stop, hset, hlog], rfl, rfl, rfl⟩

example : run init [.start [.unreachable, .bound], .restart .bound, .die, .stop, .stop] =
    some { stopSet := false, serving := false, log := [.up, .down] } := by decide

/-- quirk kept visible: a `Stop()` after a FAILED start finds the field set by the failed attempt and runs
the shut-down round although no start-up round ran (no caller does that: both run loops return on a
Start error). -/
example : run init [.start [.failed], .stop] = some { stopSet := false, serving := false, log := [.down] } := by decide

open NV.CFG NV.Gen in
/-- **C16/C20 (regenerated)**: `(*proxySvc).Stop` runs the OnStopped hooks only on the success edge of the
test of `p.stop()`, on every path (certificate over the regenerated CFG); the extraction saw the call, the
loop and the hook call. -/
theorem gen_stop_hooks_guarded :
    check Hooks.stopHooks_strict Hooks.stopHooks Hooks.stopHooks_cert Hooks.stopHooks_init = true ∧
    Hooks.stopHooks_init = (0, 0) ∧ 1 ≤ Hooks.stopHookCalls ∧ Hooks.stopCalls = 1 ∧
    (Hooks.stopHooks.any fun b => b.evs == [.acq]) = true ∧
    (Hooks.stopHooks.any fun b => b.evs.contains .need) = true := by decide

open NV.CFG NV.Gen in
/-- **C16 (regenerated)**: `(*proxySvc).stop`, three projections of its CFG: `return true` is only reached after
`p.stopFunc()` was called and `<-p.stopped` was waited for — in that order — and after the field was cleared;
`return false` is only reached on the nil edge of the test of the field. `NV.SvcLife.stopInner` is written after it. -/
theorem gen_stop_inner_ok :
    check Hooks.stopCancel_strict Hooks.stopCancel Hooks.stopCancel_cert Hooks.stopCancel_init = true ∧
    check Hooks.stopClear_strict Hooks.stopClear Hooks.stopClear_cert Hooks.stopClear_init = true ∧
    check Hooks.stopNil_strict Hooks.stopNil Hooks.stopNil_cert Hooks.stopNil_init = true ∧
    (Hooks.stopCancel.any fun b => b.evs == [.acq, .need, .need, .rel]) = true ∧
    (Hooks.stopClear.any fun b => b.evs == [.acq, .need, .rel]) = true ∧
    (Hooks.stopNil.any fun b => b.evs == [.acq]) = true ∧
    (Hooks.stopNil.any fun b => b.evs == [.need, .rel]) = true := by decide

open NV.Gen in
/-- **C16 (regenerated)**: `Restart` is `stop()` then `start()` and touches no hook list; `start()`'s goroutine
publishes the cancel function and the `stopped` channel before it serves and closes the channel when it
returns; nothing else writes the field. -/
theorem gen_restart_start_shape :
    Hooks.restartCalls = ["stop", "start"] ∧ Hooks.restartMentionsHooks = false ∧
    Hooks.startAssignsStopFuncFirst = true ∧ Hooks.startMakesStoppedFirst = true ∧
    Hooks.startDefersCloseStopped = true ∧ Hooks.stopFuncWrites = 2 := by decide

open NV.Gen in
/-- **C16 (regenerated)**: the run loops: as a service only SIGTERM leads to `r.Stop()` (all signals are
subscribed, no other one stops it), in the foreground SIGHUP / SIGTERM / interrupt do; a failed
`r.Start()` returns without `r.Stop()`. `NV.SvcLife.stopsOn` / `runLoopOps` are written after it. -/
theorem gen_runloop_agree :
    Hooks.svcStopSignals = ["syscall.SIGTERM"] ∧ Hooks.svcNotifyAll = true ∧ Hooks.svcStartErrReturns = true ∧
    Hooks.fgNotify = ["syscall.SIGHUP", "syscall.SIGTERM", "os.Interrupt"] ∧
    Hooks.fgStopsAfterSignal = true ∧ Hooks.fgStartErrReturns = true := by decide

/-- **a whole run of the daemon under its run loop**: no hook round when the start failed (or is still
waiting for the network), the start-up round alone while it runs, the start-up round followed by the
shut-down round once a stopping signal arrived — for every outcome list and every signal sequence. -/
theorem service_run_log (fg : Bool) (as : List Att) (sigs : List Sig) :
    ∃ s, run init (runLoopOps fg as sigs) = some s ∧
      s.log = (if svcStart as = .started then
                 (if sigs.any (stopsOn fg) = true then [.up, .down] else [.up]) else []) ∧
      (s.serving = true ↔ (svcStart as = .started ∧ sigs.any (stopsOn fg) = false)) :=
  NV.SvcLife.service_run_log' fg as sigs

end NV.C16Life
