/-
  C08 — endpoint election picks the first healthy candidate in preference order.

  Model: NV.Model.Manager (resolver/endpoint/manager.go after the two `fix:` commits; `Variant` keeps
  the pre-repair behaviour for the negative witnesses).  The statements speak of an election through
  `items`, `stopOf`, `offered` (NV.Lemmas.Election), `actions` / `changes` (NV.Lemmas.Manager) and `traceEvents`, the
  observable log of a list of processed items (GetEndpoints calls, probe calls with result, OnError /
  OnProviderError), compared with the real Manager event by event by the `mgr` correspondence area.
  Tie to the source: NV.Gen.Manager (constants, the two comparisons) is regenerated on every run.
-/
import NV.Lemmas.SvcProv
import NV.Model.SrcUrl
import NV.Model.RealEp
import NV.Lemmas.PkgState
import NV.Lemmas.Manager
import NV.Gen.Manager
import NV.Driver.EpEq
namespace NV.C08
open NV.Mgr

/-- the regenerated constants and comparisons are the ones of the hand model -/
theorem gen_consts_agree :
    Gen.Manager.defaultErrorThreshold = defaultThreshold ∧
    Gen.Manager.defaultMinTestInterval = defaultMinTest ∧
    Gen.Manager.minTestIntervalFailed = failedInterval ∧
    (∀ now last iv, Gen.Manager.exceeded now last iv = exceeded now last iv) ∧
    (∀ now last iv, Gen.Manager.exceededWall now last iv = exceeded now last iv) ∧
    (∀ n t, Gen.Manager.thresholdHit n t = thresholdHit n t) :=
  ⟨rfl, rfl, rfl, fun _ _ _ => rfl, fun _ _ _ => rfl, fun _ _ => rfl⟩

/-- **election order.**  The nested loops of `findBestEndpointLocked` process the flattened
provider-major list strictly left to right:
(a) if `d` is the first item that ends an election, exactly `pre ++ [d]` is processed — nothing
    after it is probed or asked — and the result is `d`'s: the first candidate whose probe passes
    is elected; a network-unreachable probe or provider aborts the election with that error;
(b) if no item ends the election everything is processed and the first listed candidate is
    returned as fallback (short interval), or — no candidate at all — an error (before the repair:
    a nil endpoint).
Providers that returned an ordinary error contribute only a `perr` item, i.e. they are skipped. -/
theorem findBest_spec (v : Variant) (env : Env) :
    (∀ pre d post s, items env = pre ++ d :: post → (∀ x ∈ pre, stopOf env.health x = none) →
        stopOf env.health d = some s →
        (findBest v env).1 = pre ++ [d] ∧
        (findBest v env).2 = (match s with | .elected e => .elected e | .unreach => .unreach)) ∧
    ((∀ x ∈ items env, stopOf env.health x = none) →
        (findBest v env).1 = items env ∧
        (findBest v env).2 = (match firstCand (items env) with
          | some e => .fallback e
          | none => if v.errOnNoCand then .noEndpoint else .fallbackNil)) :=
  ⟨findBest_stop v env, findBest_nostop v env⟩

/-- what an election processes is a prefix of `items env` (per provider its marker — list, error,
unreachable — then the candidates of its list), and `testLocked` logs exactly the events of that
prefix, followed by at most one OnChange -/
theorem probe_log_prefix (v : Variant) (cfg : Cfg) (st : St) (env : Env) :
    (findBest v env).1 <+: items env ∧
    ∃ tail, (testLocked v cfg st env).2.1 = traceEvents env.health (findBest v env).1 ++ tail ∧
      (tail = [] ∨ ∃ e, tail = [.onChange e]) := by
  refine ⟨findBest_prefix v env, ?_⟩
  rw [testLocked_eq]
  cases electedOf (findBest v env).2 with
  | none => exact ⟨[], by simp, Or.inl rfl⟩
  | some e =>
    refine ⟨(applyElect cfg st e (isShort (findBest v env).2)).2, rfl, ?_⟩
    rw [applyElect_events]
    split
    · exact Or.inr ⟨e, rfl⟩
    · exact Or.inl rfl

/-- an elected (or fallback) endpoint was offered by a provider in this very election, and an
elected one passed its probe -/
theorem elected_was_offered (v : Variant) (env : Env) (e : Ep) :
    ((findBest v env).2 = .elected e → e ∈ offered env ∧ env.health e.key = .ok) ∧
    ((findBest v env).2 = .fallback e → e ∈ offered env) := by
  have hO := findBest_outcome v env
  refine ⟨fun h => ?_, fun h => ?_⟩ <;> simp only [h] at hO
  · exact ⟨findBest_cands_offered v env e hO.1, hO.2⟩
  · exact findBest_cands_offered v env e hO

/-- **OnChange fires exactly when the elected endpoint is not `Equal` to the previously active
one** (or there was none), with that endpoint, and at most once per election. -/
theorem onChange_iff (v : Variant) (cfg : Cfg) (st : St) (env : Env) :
    changes (testLocked v cfg st env).2.1 =
      match electedOf (findBest v env).2 with
      | some e =>
        if st.active = none ∨ ∃ a, st.active = some a ∧ equalOpt (st.heap a).ep e = false
        then [.onChange e] else []
      | none => [] := by
  rw [testLocked_eq]
  cases electedOf (findBest v env).2 with
  | none => simp [trace_no_change]
  | some e =>
    simp only [changes_append, trace_no_change, List.nil_append, applyElect_events, reuse_none_iff]
    split <;> rfl

/-- the swap itself: after a successful election the active endpoint is `Equal` to the elected
one (the same object as before when the old one was already `Equal`, a fresh one otherwise:
`applyElect`) -/
theorem elected_becomes_active (v : Variant) (cfg : Cfg) (st : St) (env : Env) (e : Ep)
    (h : (findBest v env).2 = .elected e ∨ (findBest v env).2 = .fallback e) :
    ∃ a, (testLocked v cfg st env).1.active = some a ∧
      equalOpt ((testLocked v cfg st env).1.heap a).ep (some e) = true ∧
      (testLocked v cfg st env).2.2 = true := by
  rw [testLocked_eq]
  have he : electedOf (findBest v env).2 = some (some e) := by rcases h with h | h <;> rw [h] <;> rfl
  rw [he]
  simp only
  obtain ⟨a, ha, heq, _⟩ := applyElect_active cfg st e (isShort (findBest v env).2)
  exact ⟨a, ha, heq, trivial⟩

/-- when nobody passed its probe the elected object carries the short retry interval — also when
it is the object that was already active (the write hits the shared object) -/
theorem fallback_short_interval (v : Variant) (cfg : Cfg) (st : St) (env : Env) (e : Ep)
    (h : (findBest v env).2 = .fallback e) :
    ∃ a, (testLocked v cfg st env).1.active = some a ∧
      ((testLocked v cfg st env).1.heap a).interval = failedInterval := by
  rw [testLocked_eq, h]
  simp only [electedOf, isShort]
  obtain ⟨a, ha, _, hi⟩ := applyElect_active cfg st e true
  exact ⟨a, ha, hi rfl⟩

/-- `testLocked` hands on the error of `findBestEndpointLocked` (network unreachable; since the repair
also: no candidate) before it looks at `m.activeEndpoint`: the endpoint in use survives an election
that fails -/
theorem failed_election_keeps_state (v : Variant) (cfg : Cfg) (st : St) (env : Env)
    (h : (testLocked v cfg st env).2.2 = false) : (testLocked v cfg st env).1 = st :=
  testLocked_failed h

/-- **every Do runs its action exactly once, on the endpoint that was active when it started**:
`doStart` either enters the action exactly once, with the endpoint of the active object — the one
that was active before the call if there was one, otherwise the one installed by this call
(InitEndpoint or bootstrap election) — and registers that object as in flight; or it returns an
error without running the action, which only happens when there was neither an active endpoint nor
an InitEndpoint. -/
theorem do_once_on_active (v : Variant) (cfg : Cfg) (st : St) (env : Env) (r : St × List Ev)
    (hr : doStart v cfg st env = some r) :
    (∃ a, r.1.active = some a ∧ actions r.2 = [.action (r.1.heap a).ep] ∧
        r.1.inflight = st.inflight ++ [a] ∧
        (∀ a0, st.active = some a0 → a = a0 ∧ (r.1.heap a).ep = (st.heap a0).ep)) ∨
    (actions r.2 = [] ∧ Ev.ret false ∈ r.2 ∧ r.1.inflight = st.inflight ∧
        st.active = none ∧ cfg.init = none) := by
  cases step_some (show step v cfg st (.doStart env) = some r from hr)
  simp only [exec]
  cases hg : (getActive v cfg st env).1.active with
  | some a =>
    dsimp only
    refine Or.inl ⟨a, (enterDo_active ..).trans hg, ?_, ?_, fun a0 h0 => ?_⟩
    · rw [enterDo_events, actions_append, getActive_actions, enterDo_ep]; rfl
    · rw [enterDo_inflight, getActive_inflight]
    · rw [getActive_of_active h0] at hg
      cases hg.symm.trans h0
      exact ⟨rfl, by rw [enterDo_ep, getActive_of_active h0]⟩
  | none =>
    dsimp only
    obtain ⟨h1, h2⟩ := getActive_none hg
    exact Or.inr ⟨by rw [actions_append, getActive_actions]; rfl, List.mem_append_right _ (List.mem_singleton_self _),
      getActive_inflight .., h1, h2⟩

/-- no other operation runs an action -/
theorem no_action_elsewhere (v : Variant) (cfg : Cfg) (st : St) (op : Op) (r : St × List Ev)
    (hr : step v cfg st op = some r) (hop : ∀ env, op ≠ .doStart env) : actions r.2 = [] := by
  cases step_some hr
  cases op with
  | doStart env => exact absurd rfl (hop env)
  | electionRun env =>
    simp only [exec]
    split
    · rfl
    · rw [actions_append, testLocked_actions]; rfl
  | forceTest env => exact (actions_append ..).trans (by rw [testLocked_actions]; rfl)
  | _ => rfl

/-- **provenance** (invariant over ALL operation lists from the initial state): the active
endpoint is the InitEndpoint (as long as no election has completed) or is `Equal` to a candidate
the providers returned during the most recent election that completed (`lastOffer`). -/
theorem active_provenance (cfg : Cfg) (ops : List Op) (r : St × List Ev)
    (hr : run repaired cfg St.init ops = some r) (a : Nat) (ha : r.1.active = some a) :
    match r.1.lastOffer with
    | none => (r.1.heap a).ep = cfg.init
    | some l => ∃ e ∈ l, equalOpt (r.1.heap a).ep (some e) = true :=
  (Inv_reach hr).p.prov a ha

/-- `lastOffer` is what it is called: a completed election records exactly the candidates it saw,
all of them returned by providers in that election; a failed one leaves it alone -/
theorem lastOffer_is_last_election (v : Variant) (cfg : Cfg) (st : St) (env : Env) :
    ((testLocked v cfg st env).2.2 = true →
      (testLocked v cfg st env).1.lastOffer = some (candsOf (findBest v env).1) ∧
      ∀ e ∈ candsOf (findBest v env).1, e ∈ offered env) ∧
    ((testLocked v cfg st env).2.2 = false → (testLocked v cfg st env).1.lastOffer = st.lastOffer) := by
  rw [testLocked_eq]
  cases electedOf (findBest v env).2 with
  | none => simp
  | some e => exact ⟨fun _ => ⟨rfl, findBest_cands_offered v env⟩, fun h => by simp at h⟩

/-- **a provider that stops offering an endpoint loses it at the next election**: from any
reachable state, once an election completes in an environment where no provider returns an
endpoint `Equal` to `x` (e.g. the time-limited plain-DNS fallback provider returns nothing any
more), the active endpoint is not `Equal` to `x`. -/
theorem fallback_abandoned (cfg : Cfg) (ops : List Op) (r : St × List Ev)
    (hr : run repaired cfg St.init ops = some r) (env : Env) (x : Ep)
    (hx : ∀ e ∈ offered env, e.key ≠ x.key)
    (hok : (testLocked repaired cfg r.1 env).2.2 = true) (a : Nat)
    (ha : (testLocked repaired cfg r.1 env).1.active = some a) :
    equalOpt ((testLocked repaired cfg r.1 env).1.heap a).ep (some x) = false := by
  have hinv := testLocked_InvP cfg r.1 env (Inv_reach hr).p
  have hp := hinv.prov a ha
  obtain ⟨hl, hoff⟩ := (lastOffer_is_last_election repaired cfg r.1 env).1 hok
  rw [hl] at hp
  obtain ⟨e, he, heq⟩ := hp
  obtain ⟨y, hep, hk⟩ := equalOpt_some_iff.1 heq
  refine Bool.eq_false_iff.2 fun h => ?_
  obtain ⟨y', hep', hk'⟩ := equalOpt_some_iff.1 h
  cases hep.symm.trans hep'
  exact hx e (hoff e he) (hk.symm.trans hk')

/-- **the active endpoint is never nil** (repaired code; all operation lists).  Before the repair
this held only as long as some provider offered a candidate, see `prerepair_installs_nil`. -/
theorem active_nonnil (cfg : Cfg) (ops : List Op) (r : St × List Ev)
    (hr : run repaired cfg St.init ops = some r) (a : Nat) (ha : r.1.active = some a) :
    (r.1.heap a).ep ≠ none :=
  (Inv_reach hr).p.nonnil a ha

/-- the pre-repair code (`⟨true, false⟩`: `errOnNoCand` off; DESIGN §6, repaired by d74e8b2): one Do with a provider that
returns no endpoint installs an active object whose Endpoint is nil and passes nil to the action -/
theorem prerepair_installs_nil :
    ∃ r, run ⟨true, false⟩ ⟨0, 0, fun _ => 0, none⟩ St.init [.doStart ⟨[.ok []], fun _ => .ok⟩] = some r ∧
      r.1.active = some 0 ∧ (r.1.heap 0).ep = none ∧ Ev.action none ∈ r.2 := by
  refine ⟨_, rfl, rfl, rfl, ?_⟩
  decide

/-- the same script on the repaired code: the Do returns an error, nothing is installed -/
theorem repaired_no_candidate_errors :
    ∃ r, run repaired ⟨0, 0, fun _ => 0, none⟩ St.init [.doStart ⟨[.ok []], fun _ => .ok⟩] = some r ∧
      r.1.active = none ∧ r.2 = [.getEps 0, .ret false] := ⟨_, rfl, rfl, rfl⟩

/-- (a) of `findBest_spec` with a real prefix: provider 0 errors, provider 1 offers a failing and a
healthy endpoint, provider 2 is never asked -/
example :
    let env : Env := ⟨[.err, .ok [⟨1, 0⟩, ⟨2, 0⟩, ⟨3, 0⟩], .ok [⟨4, 0⟩]], fun k => if k = 1 then .err else .ok⟩
    items env = [.perr 0, .pok 1, .cand ⟨1, 0⟩] ++ .cand ⟨2, 0⟩ :: [.cand ⟨3, 0⟩, .pok 2, .cand ⟨4, 0⟩] ∧
    (∀ x ∈ [Item.perr 0, .pok 1, .cand ⟨1, 0⟩], stopOf env.health x = none) ∧
    stopOf env.health (.cand ⟨2, 0⟩) = some (.elected ⟨2, 0⟩) ∧
    findBest repaired env = ([.perr 0, .pok 1, .cand ⟨1, 0⟩, .cand ⟨2, 0⟩], .elected ⟨2, 0⟩) := by
  refine ⟨rfl, by decide, rfl, rfl⟩

/-- (b): everything fails, first listed candidate is the fallback -/
example :
    let env : Env := ⟨[.ok [⟨1, 0⟩], .err, .ok [⟨2, 0⟩]], fun _ => .err⟩
    (∀ x ∈ items env, stopOf env.health x = none) ∧ findBest repaired env =
      ([.pok 0, .cand ⟨1, 0⟩, .perr 1, .pok 2, .cand ⟨2, 0⟩], .fallback ⟨1, 0⟩) := by
  refine ⟨by decide, rfl⟩

/-- `fallback_abandoned` is not vacuous: a reachable state using endpoint 5 (plain DNS fallback),
then the provider stops offering it and an election completes -/
example :
    let cfg : Cfg := ⟨0, 0, fun _ => 0, none⟩
    let env1 : Env := ⟨[.ok [⟨5, 0⟩]], fun _ => .ok⟩
    let env2 : Env := ⟨[.ok [⟨1, 0⟩]], fun _ => .ok⟩
    ∃ r, run repaired cfg St.init [.doStart env1] = some r ∧ (r.1.heap 0).ep = some ⟨5, 0⟩ ∧
      (∀ e ∈ offered env2, e.key ≠ 5) ∧ (testLocked repaired cfg r.1 env2).2.2 = true ∧
      (testLocked repaired cfg r.1 env2).1.active = some 1 := by
  refine ⟨_, rfl, rfl, by decide, rfl, rfl⟩

/-! ### endpoint identity (`Equal` of resolver/endpoint doh.go / dns.go, tied by the `epeq` area) -/

/-- `epEqual`, the model of `Equal`, is identity of `EpSpec` values: of kind, host name, path and the
list of bootstrap addresses (DoH) resp. of kind and address (plain DNS) -/
theorem ep_equal_iff (a b : NV.EpSpec) : NV.epEqual a b = true ↔ a = b := by simp [NV.epEqual]

/-- two DoH endpoints that differ in their bootstrap addresses only — the primary and the secondary
server of one provider: same host name, same path — are not `Equal`.  In the manager model they
therefore carry different `key`s, and moving from one to the other is a change (`onChange_iff`). -/
theorem other_bootstrap_other_endpoint (h p : Bytes) (bs bs' : List Bytes) (hne : bs ≠ bs') :
    NV.epEqual (.doh h p bs) (.doh h p bs') = false := by
  simp [NV.epEqual, hne]

example : NV.epEqual (.doh [1] [] [[10], [11]]) (.doh [1] [] [[10], [12]]) = false ∧
    NV.epEqual (.doh [1] [] [[10]]) (.dns [10]) = false := by decide

/-- **regenerated (no hidden state between exchanges)**: `Gen.PkgState.only_rootCA_written`, as in
`NV.C03.gen_no_hidden_process_state`; resolver/endpoint is among the packages swept.  The manager model relies on it where an
election depends on `St` and `Env` alone: a candidate list or a probe message kept at package level would be state it does not have. -/
theorem gen_no_hidden_process_state :
    (Gen.PkgState.table.all fun r =>
      r.2.2.isEmpty || (r.1 == "resolver/endpoint" && (r.2.1 == "rootCAInit" || r.2.1 == "rootCAs"))) = true :=
  Gen.PkgState.only_rootCA_written

section RealEp
open NV.RealEp

/-- **C08 on the endpoint stack as the `realep` area sees it**: when some candidate serves, the election makes active a candidate
that serves, and every candidate listed before it does not. -/
theorem realep_election_first_healthy (eps down : List String) (e : String) (h : election eps down = some e)
    (hex : ∃ x, x ∈ eps ∧ down.contains x = false) :
    e ∈ eps ∧ down.contains e = false ∧
    ∃ pre post, eps = pre ++ e :: post ∧ ∀ x, x ∈ pre → down.contains x = true := by
  unfold election at h
  obtain ⟨x, hx, hd⟩ := hex
  cases hf : eps.find? (fun e => !down.contains e) with
  | none => exact absurd (by rw [hd]; rfl) (List.find?_eq_none.1 hf x hx)
  | some y =>
    rw [hf] at h
    cases h
    obtain ⟨hp, pre, post, he, hpre⟩ := List.find?_eq_some_iff_append.1 hf
    exact ⟨he ▸ by simp, by simpa using hp, pre, post, he, fun x hx => by simpa using hpre x hx⟩

/-- … and when none serves, the first candidate (the fallback). -/
theorem realep_election_fallback (eps down : List String) (hall : ∀ x, x ∈ eps → down.contains x = true) :
    election eps down = eps.head? := by
  unfold election
  rw [List.find?_eq_none.2 fun x hx => by simpa using hall x hx]

/-- an endpoint with a path of its own receives every request on that path, whatever the profile (C10: the forwarder's upstream;
C11: a custom endpoint) -/
theorem realep_path_own (ep prof prof' : String) (h : ep ≠ "-") : pathOf ep prof = pathOf ep prof' ∧ pathOf ep prof = "/" ++ ep := by
  simp [pathOf, h]

/-- an endpoint without a path receives the request on the path of the chosen profile (C11) -/
theorem realep_path_profile (prof : String) (h : prof ≠ "-") : pathOf "-" prof = "/" ++ prof := by
  simp [pathOf, h]

end RealEp

/-! ### the list provider (`SourceURLProvider`): the candidates of an election are the endpoints the fetched document lists -/
section SrcUrl
open NV.SrcUrl

theorem srcurl_pick_ep (prev : List (Nat × SrcUrl.Ep)) (next : Nat) (e : SrcUrl.Ep) : (SrcUrl.pick prev next e).1.2 = e := by
  unfold SrcUrl.pick
  cases h : (prev.filter fun p => p.2 == e).getLast? with
  | none => rfl
  | some p =>
    have hm : p ∈ prev.filter fun p => p.2 == e := List.mem_of_getLast? h
    have := (List.mem_filter.mp hm).2
    simpa using this

theorem srcurl_build_eps (prev : List (Nat × SrcUrl.Ep)) : ∀ (doc : List SrcUrl.Ep) (next : Nat), (SrcUrl.build prev next doc).1.map (·.2) = doc := by
  intro doc
  induction doc with
  | nil => intro _; rfl
  | cons e es ih =>
    intro next
    simp only [SrcUrl.build, List.map_cons]
    rw [srcurl_pick_ep, ih]

/-- whatever was returned before, a successful call returns, position by position, endpoints EQUAL to the ones the document lists -/
theorem srcurl_candidates_are_the_documents (s : SrcUrl.St) (doc : List SrcUrl.Ep) :
    ((SrcUrl.step s (some doc)).2.map fun objs => objs.map (·.2)) = some doc := by
  simp [SrcUrl.step, srcurl_build_eps]

theorem srcurl_failed_fetch_keeps_state (s : SrcUrl.St) : (SrcUrl.step s none).1 = s := rfl

/-- an element equal to one of the previous list is that earlier object, not a new one -/
theorem srcurl_equal_is_reused (prev : List (Nat × SrcUrl.Ep)) (next : Nat) (e : SrcUrl.Ep) (p : Nat × SrcUrl.Ep) (hp : p ∈ prev) (he : p.2 = e) :
    (SrcUrl.pick prev next e).1 ∈ prev ∧ (SrcUrl.pick prev next e).2 = next := by
  unfold SrcUrl.pick
  cases h : (prev.filter fun p => p.2 == e).getLast? with
  | none => exact absurd (List.getLast?_eq_none_iff.1 h) (List.ne_nil_of_mem (List.mem_filter.2 ⟨hp, by simp [he]⟩))
  | some q =>
    exact ⟨(List.mem_filter.mp (List.mem_of_getLast? h)).1, rfl⟩

end SrcUrl

/-! ### the HTTPS-record provider (`SourceHTTPSSVCProvider`), first provider of run.go's manager -/
section SvcProv
open NV.SvcProv NV.SvcProvL

/-- when GetEndpoints succeeds, the bootstrap addresses of the candidates, read in candidate order, are what `hints` cuts out of
the ipv4hint / ipv6hint parameters of the answer's HTTPS records (`addrsOfParam` is that call; `hints` itself is not
characterised), in record order: the loop loses none, invents none, and keeps the answer's order. -/
theorem svcprov_addresses_are_the_hints (rrs : List RR) (eps : List SvcProv.Ep) (h : getEndpoints rrs = some eps) :
    allIps eps = rrs.flatMap (fun r => addrsOf r.params) := by
  simpa [allIps] using loop_ips rrs 0 none [] eps h

/-- the number of candidates: one, plus one for every record whose priority value is higher than the one before it -/
theorem svcprov_candidate_count (rr : RR) (rest : List RR) (eps : List SvcProv.Ep) (h : getEndpoints (rr :: rest) = some eps) :
    eps.length = 1 + rises ((rr :: rest).map (·.prio)) := by
  obtain ⟨e', _, hl⟩ := loop_cons h
  simpa [Nat.add_comm] using loop_some_count rest rr.prio e' _ eps hl

/-- an answer without HTTPS records gives no candidate (the election moves on to the next provider) -/
theorem svcprov_no_record_no_candidate : getEndpoints [] = some [] := rfl

/-- non-vacuity: two records of priority 1 build one candidate, a record of priority 2 a fallback candidate -/
example : (getEndpoints [⟨1, [⟨4, [45, 90, 28, 0]⟩]⟩, ⟨1, [⟨4, [45, 90, 30, 0]⟩]⟩, ⟨2, [⟨4, [1, 2, 3, 4]⟩]⟩]).map (·.length) = some 2 := by
  decide

end SvcProv

end NV.C08
