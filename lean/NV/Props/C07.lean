/-
  C07 (message level) — TTL aging of cached answers: `resolver/cache.go` `updateTTL`,
  `skipName`, `cacheValue.AdjustedResponse`.

  "An answer served from cache is the stored upstream message with every non-OPT TTL reduced by
  the whole seconds elapsed since it was fetched and capped by max-ttl, so a record's absolute
  expiry as seen by clients never moves later by passing through the cache.  It is served only
  while its smallest answer/authority TTL is still positive [and] its age does not exceed
  cache-max-age …"   (the history half — *when* `AdjustedResponse` is consulted and what
  happens with its minTTL — lives with C06's cache model.)

  About the executable model `NV.TTL` (`NV/Model/TTL.lean`): first what holds of EVERY byte string
  (the TTL fields are those a length-only reading reaches, `Spec.ttlFields`), then the exact result on
  well-formed structured messages (`Spec.Msg`, `WF`), then `AdjustedResponse`.
-/
import NV.Lemmas.TTL
import NV.Gen.TTL
namespace NV.C07
open NV NV.TTL NV.Spec

/-- `query.TypeOPT` -/
theorem gen_typeOPT_agree : Gen.typeOPT = typeOPT := by decide

/-- the per-record block of `updateTTL`, re-translated from resolver/cache.go statement by
statement (uint32 `-` emitted modulo 2^32), computes what the hand model computes -/
theorem gen_ttlBlock_agree (ttl0 age maxAge maxTTL mt i addIdx : Nat)
    (h0 : ttl0 < 4294967296) (ha : age < 4294967296) :
    Gen.ttlBlock ttl0 age maxAge maxTTL mt i addIdx =
      (clampTTL (aged ttl0 age) maxTTL, if i < addIdx then minStep mt (aged ttl0 age) age maxAge else mt) := by
  -- the only arithmetic: uint32 `ttl - age` does not wrap when `age ≤ ttl`
  have hsub : aged ttl0 age = if age > ttl0 then 0 else (ttl0 + 4294967296 - age) % 4294967296 := by
    rw [aged_eq]; split <;> omega
  -- The generated block returns its pair from every branch.  Project a component through the
  -- branches and collapse those that do not affect it: what is left are the tests of the Go code.
  -- The bodies of `clampTTL` and `minStep` make the same tests, so unfolding them ends the proof; their
  -- closed forms `clampTTL_eq`/`minStep_eq` say `min` and would leave arithmetic to do in every case.
  -- (A block the translator does not recognise it prints as the model's own expression; then the
  -- same steps find the two sides equal at once.)
  apply Prod.ext
  · by_cases h : age > ttl0 <;>
      simp only [Gen.ttlBlock, Id.run, pure, hsub, h, ↓reduceIte, apply_ite Prod.fst, ite_self, clampTTL]
  · by_cases h : age > ttl0 <;>
      simp only [Gen.ttlBlock, Id.run, pure, hsub, h, ↓reduceIte, apply_ite Prod.snd, ite_self, minStep]

/-- … and one iteration of the model's loop is that block applied to the record's TTL field -/
theorem rrStep_is_gen_block (age maxAge maxTTL addIdx i : Nat) (rest : Bytes) (mt l : Nat)
    (h : l + 10 ≤ rest.length) (ha : age < 4294967296) :
    rrStep age maxAge maxTTL addIdx i rest mt l =
      .ok (if rd16 rest l ≠ Gen.typeOPT then
             setBytes rest (l + 4) (be32 (Gen.ttlBlock (rd32 rest (l + 4)) age maxAge maxTTL mt i addIdx).1)
           else rest,
           if rd16 rest l ≠ Gen.typeOPT then (Gen.ttlBlock (rd32 rest (l + 4)) age maxAge maxTTL mt i addIdx).2
           else mt,
           rd16 rest (l + 8)) := by
  rw [rrStep_ok _ _ _ _ _ _ _ _ h, gen_ttlBlock_agree _ _ _ _ _ _ _ (rd32_lt _ _) ha, gen_typeOPT_agree]
  by_cases ht : rd16 rest l = typeOPT
  · rw [stepBuf_opt ht, stepMin_opt ht, if_neg (not_not_intro ht), if_neg (not_not_intro ht)]
  · rw [stepBuf_of_ne_opt ht, stepMin_of_ne_opt ht, if_pos ht, if_pos ht]

/-- every slice and index expression of `updateTTL` is in range, for all inputs -/
theorem updateTTL_no_panic (msg : Bytes) (age maxAge maxTTL : Nat) :
    ∃ buf m, updateTTL msg age maxAge maxTTL = .ok (buf, m) :=
  let ⟨buf, m, h, _⟩ := updateTTL_inv msg age maxAge maxTTL
  ⟨buf, m, h⟩

theorem updateTTL_length {msg buf : Bytes} {age maxAge maxTTL m : Nat}
    (h : updateTTL msg age maxAge maxTTL = .ok (buf, m)) : buf.length = msg.length :=
  (updateTTL_inv_of_ok h).inv.len

/-- a byte that differs lies inside the TTL field of a non-OPT record -/
theorem updateTTL_frame {msg buf : Bytes} {age maxAge maxTTL m : Nat}
    (h : updateTTL msg age maxAge maxTTL = .ok (buf, m)) (j : Nat) (hj : byteAt buf j ≠ byteAt msg j) :
    ∃ p ∈ ttlFields msg, p.1 ≤ j ∧ j < p.1 + 4 ∧ rd16 msg (p.1 - 4) ≠ typeOPT :=
  let inv := (updateTTL_inv_of_ok h).inv
  let ⟨p, hp, h1, h2⟩ := inv.frame j hj
  ⟨p, hp, h1, h2, (inv.field p hp).typ⟩

/-- the header (id, flags, counts) and everything up to offset 17 is never touched -/
theorem updateTTL_header_unchanged {msg buf : Bytes} {age maxAge maxTTL m : Nat}
    (h : updateTTL msg age maxAge maxTTL = .ok (buf, m)) (j : Nat) (hj : j < 17) :
    byteAt buf j = byteAt msg j := by
  apply Classical.byContradiction
  intro hne
  obtain ⟨p, hp, h1, _, _⟩ := updateTTL_frame h j hne
  have := (updateTTL_inv_of_ok h).lo p hp
  omega

theorem updateTTL_fields {msg buf : Bytes} {age maxAge maxTTL m : Nat}
    (h : updateTTL msg age maxAge maxTTL = .ok (buf, m)) (p : Nat × Nat) (hp : p ∈ ttlFields msg) :
    p.1 + 4 ≤ msg.length ∧ rd32 buf p.1 = clampTTL (aged (rd32 msg p.1) age) maxTTL :=
  let f := (updateTTL_inv_of_ok h).inv.field p hp
  ⟨f.hi, f.ttl⟩

/-- **no TTL increases**, and served + age ≤ original unless the record is served with TTL 0 -/
theorem ttl_never_increases {msg buf : Bytes} {age maxAge maxTTL m : Nat}
    (h : updateTTL msg age maxAge maxTTL = .ok (buf, m)) (p : Nat × Nat) (hp : p ∈ ttlFields msg) :
    rd32 buf p.1 ≤ rd32 msg p.1 ∧ (rd32 buf p.1 + age ≤ rd32 msg p.1 ∨ rd32 buf p.1 = 0) := by
  have := clampTTL_aged_le (rd32 msg p.1) age maxTTL
  rw [(updateTTL_fields h p hp).2]
  omega

/-- **a positive minTTL is sound**: every non-OPT record of the answer/authority sections (record index
below the 16-bit `answers + authorities`) still has `minTTL + age ≤ ttl`, and max-age is respected
whenever such a record exists -/
theorem min_pos_sound {msg buf : Bytes} {age maxAge maxTTL m : Nat}
    (h : updateTTL msg age maxAge maxTTL = .ok (buf, m)) (hm : 0 < m) :
    m < 4294967295 ∧
    (∀ p ∈ ttlFields msg, p.2 < addIdx16 msg → m + age ≤ rd32 msg p.1 ∧ (maxAge = 0 ∨ age ≤ maxAge)) := by
  have u := updateTTL_inv_of_ok h
  refine ⟨u.lt, fun p hp hi => ?_⟩
  obtain ⟨h1, h2⟩ := (u.inv.field p hp).min hi
  exact ⟨by omega, by omega⟩

/-- **the 16-bit record count cannot overflow** for a message that fits 65535 bytes: each record
takes at least 11 bytes -/
theorem rrcount_no_overflow (m : Msg) (h : m.WF) :
    m.rrs.length ≤ 5956 ∧ m.questions.length < 65536 ∧
    rrCount16 m.encode = m.rrs.length ∧ addIdx16 m.encode = m.answers.length + m.authorities.length := by
  obtain ⟨_, h6, h8, h10⟩ := encode_hdr m h
  have hb := wf_counts m h
  have hrr := rrs_length m
  refine ⟨by omega, by omega, ?_, ?_⟩
  · rw [rrCount16, h6, h8, h10, ← hrr]; exact Nat.mod_eq_of_lt (by omega)
  · rw [addIdx16, h6, h8]; exact Nat.mod_eq_of_lt (by omega)

/-- **functional correctness** on well-formed messages: the buffer becomes the encoding of the
same message with every non-OPT TTL replaced by `cap(ttl ∸ age)`; the returned value is `minSpec` -/
theorem updateTTL_spec (m : Msg) (h : m.WF) (age maxAge maxTTL : Nat) :
    updateTTL m.encode age maxAge maxTTL = .ok ((m.mapTTL age maxTTL).encode, minSpec m age maxAge) := by
  obtain ⟨_, _, hcnt, hadd⟩ := rrcount_no_overflow m h
  have ⟨_, _, hqs, hrs, _⟩ := h
  have hlen := encode_length m
  -- the counted records are the first `answers + authorities` ones (`- 0`: `rrLoop_enc` at start index 0)
  have hcounted : m.rrs.take (m.answers.length + m.authorities.length - 0) = m.answers ++ m.authorities :=
    List.take_left' (by simp)
  -- header reads, question loop, record loop, reassembly
  rw [updateTTL_eq _ _ _ _ (by omega)]
  simp only [(encode_hdr m h).1, encode_drop, skipQuestions_enc _ _ hqs, hcnt, hadd,
    rrLoop_enc _ _ _ _ _ _ _ hrs, hcounted, ← encode_mapTTL, minSpec_eq]
  rfl

/-- the served TTL in closed form: reduced by the elapsed whole seconds, capped by max-ttl -/
theorem served_closed_form (r : RR) (age maxTTL : Nat) :
    servedTTL age maxTTL r =
      if r.type = typeOPT then r.ttl
      else if 0 < maxTTL then min (r.ttl - age) maxTTL else r.ttl - age := by
  rw [servedTTL, aged_eq, clampTTL_eq]

/-- an OPT pseudo-record is served as it is -/
theorem opt_untouched (r : RR) (age maxTTL : Nat) (h : r.type = typeOPT) : r.serve age maxTTL = r :=
  serve_opt h age maxTTL

/-- **expiry is monotone** (per record, all TTLs 0..2^32-1 hence in particular RFC 2181's
0..2^31-1, every age): the served TTL is at most `ttl ∸ age`; while the record has not expired
`served + age ≤ original`; an expired record is served with TTL 0.  "served + age ≤ original" cannot
hold once `ttl < age` (see the `example` below); in a served entry that only happens to
additional-section records: answer/authority records satisfy the strict form (`positive_min_all_fresh`). -/
theorem expiry_monotone (r : RR) (age maxTTL : Nat) (h : r.type ≠ typeOPT) :
    servedTTL age maxTTL r ≤ r.ttl - age ∧
    (age ≤ r.ttl → servedTTL age maxTTL r + age ≤ r.ttl) ∧
    (r.ttl ≤ age → servedTTL age maxTTL r = 0) := by
  have := clampTTL_aged_le r.ttl age maxTTL
  rw [servedTTL_of_ne_opt h]
  omega

example : servedTTL 10 0 { name := [0], type := 1, cls := 1, ttl := 5, rdata := [] } = 0 ∧ ¬ (0 + 10 ≤ 5) := by decide

/-- the fresh-fetch call sites `updateTTL(buf[:n], 0, 0, r.MaxTTL)`: TTLs are only capped -/
theorem fresh_fetch_caps (r : RR) (maxTTL : Nat) (h : r.type ≠ typeOPT) :
    servedTTL 0 maxTTL r = if 0 < maxTTL ∧ maxTTL < r.ttl then maxTTL else r.ttl := by
  rw [servedTTL_of_ne_opt h, aged_eq, clampTTL]; rfl

/-- **characterisation of the returned minimum** (TTLs below 2^32-1, in particular all of RFC
2181's range): it is 0 exactly when there is no non-OPT answer/authority record, or the entry is older
than a configured max-age, or the TTL of such a record has run out; otherwise it is the least
remaining `ttl - age` of those records — taken BEFORE the max-ttl cap -/
theorem min_spec (m : Msg) (age maxAge : Nat) (hlt : ∀ r ∈ m.counted, r.ttl < 4294967295) :
    (minSpec m age maxAge = 0 ↔
      m.counted = [] ∨ (0 < maxAge ∧ maxAge < age) ∨ ∃ r ∈ m.counted, r.ttl ≤ age) ∧
    (minSpec m age maxAge ≠ 0 →
      (∃ r ∈ m.counted, minSpec m age maxAge = r.ttl - age) ∧
      ∀ r ∈ m.counted, minSpec m age maxAge ≤ r.ttl - age) := by
  by_cases hd : m.counted = [] ∨ (0 < maxAge ∧ maxAge < age)
  · -- the two ways of returning 0 without looking at a TTL
    have h0 : minSpec m age maxAge = 0 := by
      rw [minSpec_eq]
      by_cases hnil : m.counted = []
      · rw [hnil]; rfl  -- `finalMin (some u32max)`
      · rw [foldl_minF_old (hd.resolve_left hnil) _ _ hnil]; rfl  -- `finalMin (some 0)`
    exact ⟨⟨fun _ => hd.imp_right Or.inl, fun _ => h0⟩, fun h => absurd h0 h⟩
  · obtain ⟨⟨r0, hr0, e0⟩, hle⟩ := foldl_minF_spec (fun h => hd (Or.inr h)) (fun h => hd (Or.inl h)) hlt
    have := hlt r0 hr0
    rw [minSpec_eq, finalMin, if_neg (by simp only [u32max] at *; omega)]
    refine ⟨⟨fun h => Or.inr (Or.inr ⟨r0, hr0, by omega⟩), ?_⟩, fun _ => ⟨⟨r0, hr0, e0⟩, hle⟩⟩
    rintro (h | h | ⟨r, hr, h⟩)
    · exact absurd (Or.inl h) hd
    · exact absurd (Or.inr h) hd
    · have := hle r hr; omega

/-- **served only while fresh, at message level**: when the returned minimum is positive every
answer/authority record is served with a positive TTL whose expiry is not later than the original -/
theorem positive_min_all_fresh (m : Msg) (age maxAge maxTTL : Nat)
    (hlt : ∀ r ∈ m.counted, r.ttl < 4294967295) (hpos : 0 < minSpec m age maxAge) :
    (maxAge = 0 ∨ age ≤ maxAge) ∧
    ∀ r ∈ m.counted, age < r.ttl ∧ 0 < servedTTL age maxTTL r ∧ servedTTL age maxTTL r + age ≤ r.ttl := by
  obtain ⟨h0, h1⟩ := min_spec m age maxAge hlt
  have hne : minSpec m age maxAge ≠ 0 := by omega
  have hn0 : ¬ (m.counted = [] ∨ (0 < maxAge ∧ maxAge < age) ∨ ∃ r ∈ m.counted, r.ttl ≤ age) :=
    fun h => hne (h0.mpr h)
  refine ⟨?_, ?_⟩
  · apply Classical.byContradiction; intro hc; exact hn0 (Or.inr (Or.inl (by omega)))
  · intro r hr
    have hage : age < r.ttl := by
      apply Classical.byContradiction; intro hc; exact hn0 (Or.inr (Or.inr ⟨r, hr, by omega⟩))
    have hopt : r.type ≠ typeOPT := by
      have := (List.mem_filter.mp hr).2; simpa using this
    have hem := expiry_monotone r age maxTTL hopt
    refine ⟨hage, ?_, hem.2.1 (by omega)⟩
    rw [served_closed_form, if_neg hopt]
    split <;> omega

/-- an entry shorter than a header, or a reply buffer that is too small, yields `n = 0, minTTL = 0` -/
theorem adjusted_unusable (stored : Bytes) (bufLen id : Nat) (d : Int) (maxAge maxTTL : Nat)
    (h : stored.length < 12 ∨ bufLen < stored.length) :
    adjustedResponse stored bufLen id d maxAge maxTTL = .ok (0, [], 0) := by
  unfold adjustedResponse
  simp only
  rcases h with h | h
  · simp [h]
  · split <;> simp

theorem adjusted_no_panic (stored : Bytes) (bufLen id : Nat) (d : Int) (maxAge maxTTL : Nat) :
    ∃ r, adjustedResponse stored bufLen id d maxAge maxTTL = .ok r := by
  by_cases h : stored.length < 12 ∨ bufLen < stored.length
  · exact ⟨_, adjusted_unusable stored bufLen id d maxAge maxTTL h⟩
  · obtain ⟨buf, m, hu⟩ := updateTTL_no_panic (withID id stored) (ageOf d) maxAge maxTTL
    rw [adjustedResponse_eq _ _ _ _ _ _ (by omega) (by omega), hu]
    exact ⟨_, rfl⟩

/-- the reply is `updateTTL` applied to the stored message carrying the query
id: same length, bytes 0–1 = query id, every other byte relates to the STORED bytes through the
all-bytes theorems above (`ttlFields` ignores the id).  The stored entry itself is an input that
is only read (`copy(buf, msg)`): the model is a pure function of it; on the Go side the harness
compares the stored slice before and after each call (`stored=same`). -/
theorem adjusted_id (stored : Bytes) (bufLen id : Nat) (d : Int) (maxAge maxTTL : Nat)
    (h12 : 12 ≤ stored.length) (hb : stored.length ≤ bufLen) (hid : id < 65536) :
    ∃ buf m, adjustedResponse stored bufLen id d maxAge maxTTL = .ok (stored.length, buf, m) ∧
      updateTTL (withID id stored) (ageOf d) maxAge maxTTL = .ok (buf, m) ∧
      buf.length = stored.length ∧ rd16 buf 0 = id ∧
      ttlFields (withID id stored) = ttlFields stored ∧
      (∀ j, 2 ≤ j → byteAt (withID id stored) j = byteAt stored j) := by
  obtain ⟨buf, m, h⟩ := updateTTL_no_panic (withID id stored) (ageOf d) maxAge maxTTL
  refine ⟨buf, m, ?_, h, ?_, ?_, withID_fields id stored (by omega), fun j hj => withID_byte id stored j hj⟩
  · rw [adjustedResponse_eq _ _ _ _ _ _ h12 hb, h]
  · rw [updateTTL_length h, withID_length id stored (by omega)]
  · exact (rd16_congr fun k hk => updateTTL_header_unchanged h (0 + k) (by omega)).trans
      (withID_id id stored hid)

/-- **the answer served from cache**, for a well-formed stored message: the stored message with
the query's id, every non-OPT TTL aged by the whole seconds elapsed and capped by max-ttl -/
theorem adjusted_spec (m : Msg) (h : m.WF) (bufLen id : Nat) (d : Int) (maxAge maxTTL : Nat)
    (hb : m.encode.length ≤ bufLen) (hid : id < 65536) :
    adjustedResponse m.encode bufLen id d maxAge maxTTL =
      .ok (m.encode.length, (({ m with id := id } : Msg).mapTTL (ageOf d) maxTTL).encode,
           minSpec m (ageOf d) maxAge) := by
  have h12 : 12 ≤ m.encode.length := by rw [encode_length]; omega
  have hwf' : ({ m with id := id } : Msg).WF := by
    obtain ⟨_, hflags, hqs, hrs, hlen⟩ := h
    refine ⟨hid, hflags, hqs, hrs, ?_⟩
    have : ({ m with id := id } : Msg).encode.length = m.encode.length := by
      rw [encode_length, encode_length]; rfl
    rw [this]; exact hlen
  rw [adjustedResponse_eq _ _ _ _ _ _ h12 hb, withID_encode, updateTTL_spec _ hwf']
  rfl

/-- `age` is the number of WHOLE seconds elapsed (floor), for 0 ≤ elapsed < 2^32 s -/
theorem ageOf_whole_seconds (d : Int) (h0 : 0 ≤ d) (h1 : d < 4294967296 * 1000000000) :
    (ageOf d : Int) * 1000000000 ≤ d ∧ d < ((ageOf d : Int) + 1) * 1000000000 := by
  unfold ageOf
  rw [Int.tdiv_eq_ediv_of_nonneg h0]
  have hq : 0 ≤ d / 1000000000 := Int.ediv_nonneg h0 (by decide)
  have hq2 : d / 1000000000 < 4294967296 := by omega
  rw [Int.emod_eq_of_lt hq hq2, Int.toNat_of_nonneg hq]
  omega

/-- the repository's own test message (`Test_cacheValue_AdjustedResponse`, "Happy Path"):
question test.com A, one answer with a compression pointer and TTL 3600, one OPT additional -/
def happy : Msg :=
  { id := 0xa6ed, flags := 0x8180,
    questions := [{ name := [4, 116, 101, 115, 116, 3, 99, 111, 109, 0], qtype := 1, qclass := 1 }],
    answers := [{ name := [0xC0, 12], type := 1, cls := 1, ttl := 3600, rdata := [69, 172, 200, 235] }],
    authorities := [],
    additionals := [{ name := [0], type := 41, cls := 1452, ttl := 0, rdata := [] }] }

theorem happy_wf : happy.WF := by
  have hq : ValidName [4, 116, 101, 115, 116, 3, 99, 111, 109, 0] :=
    ValidName.label 4 [116, 101, 115, 116] _ (by decide) (by decide) rfl
      (ValidName.label 3 [99, 111, 109] [0] (by decide) (by decide) rfl ValidName.root)
  refine ⟨by decide, by decide, ?_, ?_, by decide⟩
  · intro q hq'
    simp [happy] at hq'; subst hq'
    exact ⟨hq, by decide, by decide⟩
  · intro r hr
    simp [happy, Msg.rrs] at hr
    rcases hr with rfl | rfl
    · exact ⟨ValidName.ptr 0xC0 12 (by decide), by decide, by decide, by decide, by decide⟩
    · exact ⟨ValidName.root, by decide, by decide, by decide, by decide⟩

/-- the expectation of the repository's test follows from `updateTTL_spec`; 32 = 12 + 14 + 6 is the answer's TTL field -/
example : ∃ buf, updateTTL happy.encode 10 0 0 = .ok (buf, 3590) ∧ rd32 buf 32 = 3590 ∧
    buf.length = happy.encode.length := by
  refine ⟨_, updateTTL_spec happy happy_wf 10 0 0, by decide +kernel, by decide +kernel⟩

example : minSpec happy 3600 0 = 0 ∧ minSpec happy 3599 0 = 1 ∧ minSpec happy 10 9 = 0 ∧
    minSpec happy 10 10 = 3590 := by decide

/-- the minimum is taken BEFORE the cap: max-ttl 60 serves TTL 60 but reports 3590 -/
example : minSpec happy 10 0 = 3590 ∧
    servedTTL 10 60 { name := [0xC0, 12], type := 1, cls := 1, ttl := 3600, rdata := [] } = 60 := by decide

/-- the hypotheses of `adjusted_id` / `adjusted_spec` are satisfiable -/
example : 12 ≤ happy.encode.length ∧ happy.encode.length ≤ 4096 ∧ happy.encode.length = 53 := by decide
/-- `ageOf` rounds down; the two negative durations lie outside `ageOf_whole_seconds` -/
example : ageOf 10999999999 = 10 ∧ ageOf 999999999 = 0 ∧ ageOf (-999999999) = 0 ∧
    ageOf (-1000000000) = 4294967295 := by decide

/-- the hypotheses of `min_spec` / `positive_min_all_fresh` are satisfiable -/
example : (∀ r ∈ happy.counted, r.ttl < 4294967295) ∧ 0 < minSpec happy 10 0 := by decide

/-- a quirk outside RFC 2181's range (`^minTTL == 0`): when every counted TTL is
2^32-1 and age is 0 the function returns 0, i.e. the entry is treated as not servable -/
example : minSpec { happy with answers := [{ name := [0], type := 1, cls := 1, ttl := 4294967295, rdata := [] }] } 0 0 = 0 := by
  decide

/-- documented corner case OUTSIDE `WF`, kept visible: when the header counts lie and their sum
reaches 65536, the uint16 sum `answers + authorities + additionals` wraps and the loop stops
early.  Here an=2, ns=0, ar=65535 in a 39-byte message: rrCount = 1, so the second answer record
(TTL 5, expired at age 10) is returned un-aged while minTTL = 3590 > 0.  No message of at most
65535 bytes can truthfully announce 65536 records (`rrcount_no_overflow`), so this needs an
upstream that sends a self-contradictory header; the theorems about every byte string still apply. -/
def wrapMsg : Bytes :=
  [0,1, 0x81,0x80, 0,1, 0,2, 0,0, 0xff,0xff,  0, 0,1, 0,1,
   0, 0,1, 0,1, 0,0,0x0e,0x10, 0,0,
   0, 0,1, 0,1, 0,0,0,5, 0,0]

theorem count_wrap_witness : updateTTL wrapMsg 10 0 0 = .ok (
    [0,1, 0x81,0x80, 0,1, 0,2, 0,0, 0xff,0xff,  0, 0,1, 0,1,
     0, 0,1, 0,1, 0,0,0x0e,0x06, 0,0,
     0, 0,1, 0,1, 0,0,0,5, 0,0], 3590) :=
  eq_ok_of_toOption (by decide +kernel)

end NV.C07
