/-
  C18 — discovery tables hold exactly what the sources say, and stay consistent.

  Model: NV.Model.Discovery (appendUniq, hosts / dnsmasq / ISC dhcpd readers, lookups) and
  NV.Model.MDNS (addEntry, removeEntry, removeOldestEntry, ingest loop of MDNS.read).
  All statements quantify over every file content (byte string; the model agrees with the Go
  string functions on ASCII, see the model header) and every sequence of mDNS packets, with the
  entries of each packet in any order (Go's map iteration order), for every cap.

  The theorems are about the REPAIRED code (four `fix:` commits: appendUniq shift index;
  removeOldestEntry source table; removeOldestEntry spelling; ASCII-only case folding).  `appendUniqOld` is the
  code before the first, `removeOldestOld` the code before the second and third at once; the property failed on them:
  `appendUniq_old_defect`, and `mdns_old_views_disagree` for the source table (lower-case names: none for the spelling).
-/
import NV.Lemmas.MDNS
import NV.Gen.Discovery
namespace NV.C18
open NV NV.Disc

/-- the statements of the loop body of MDNS.read for one (address, name) pair of a packet, regenerated on
every check, are those `ingestOne` and the copy run by op `mdnsops` of area `mdns` (cap as a parameter)
were written from: validity filter, lazily created tables, absolute name, lower-cased key, `addEntry` on
both views, eviction AFTER the insert while the name table exceeds the cap. -/
theorem gen_mdns_ingest_agree :
    Gen.mdnsIngest = ["if isValidName(name)", "  if r.addrs == nil", "    r.addrs = map[string]mdnsEntry{}",
      "    r.names = map[string]mdnsEntry{}", "  name := absDomainName([]byte(name))", "  h := []byte(name)",
      "  lowerASCIIBytes(h)", "  key := absDomainName(h)", "  addEntry(r.addrs, addr, name)",
      "  addEntry(r.names, key, addr)", "  for len(r.names) > mdnsMaxEntries", "    r.removeOldestEntry()"] := rfl

/-- facts regenerated from discovery/util.go and discovery/mdns.go on every check: the
index used by the shifting `copy` of appendUniq, the table `removeOldestEntry` reads the evicted
name's addresses from, and the spelling test before `removeEntry`. -/
theorem gen_discovery_agree :
    Gen.appendUniqShift = ShiftIdx.pos ∧ Gen.evictReadsNames = true ∧ Gen.evictFoldsSpelling = true := by decide

theorem appendUniq_spec (set : List Str) (x : Str) (hs : Sorted set) :
    Sorted (appendUniq1 set x) ∧ (appendUniq1 set x).Nodup ∧
    ∀ y, y ∈ appendUniq1 set x ↔ y = x ∨ y ∈ set :=
  ⟨sorted_appendUniq1 set x hs, (sorted_appendUniq1 set x hs).nodup, fun y => mem_appendUniq1 set x y hs⟩

/-- the code with the index regenerated from the source is the model the theorems are about -/
theorem gen_appendUniq_agree (set adds : List Str) : appendUniqG Gen.appendUniqShift set 0 adds = appendUniq set adds := rfl

/-- the code before the repair violated the specification: `[a, c] + d = [a, a, d]`
(sorted input; `c` lost, `a` listed twice) -/
theorem appendUniq_old_defect :
    appendUniqOld [[97], [99]] [[100]] = [[97], [97], [100]] ∧ Sorted [[97], [99]] :=
  ⟨by decide, by simp [Sorted, strLt]⟩

/-- latent quirk kept visible (no caller in package discovery passes several values): the first
duplicate among several adds drops the remaining ones -/
theorem appendUniq_multi_early_return : appendUniq [[97]] [[97], [98]] = [[97]] := by decide

example : Sorted [[97], [99]] ∧ appendUniq1 [[97], [99]] [100] = [[97], [99], [100]] :=
  ⟨by simp [Sorted, strLt], by decide⟩

/-- the name table lists under key `k` exactly the addresses of the pairs written in the file whose name
folds to `k`, in file order (plain `append`: a pair written twice is listed twice); the two built-in
localhost keys get `127.0.0.1, ::1` when the file says nothing. -/
theorem hosts_exact_names (canonIP : Str → Option Str) (content : Bytes) (k : Str) :
    (readHostsFile canonIP content).names.get k =
      if k ∈ localhostKeys ∧ ((hostsPairs canonIP content).filterMap fun p =>
          if prepareHostLookup p.2 = k then some p.1 else none) = []
      then localhostAddrs
      else (hostsPairs canonIP content).filterMap fun p => if prepareHostLookup p.2 = k then some p.1 else none := by
  unfold readHostsFile
  simp only [get_hostsDefaults, List.length_eq_zero_iff]
  rw [foldl_hostsLine_eq, reader_push _ HostsTbl.names (fun p => (prepareHostLookup p.2, p.1)) (fun _ _ => rfl) _ _ rfl]

/-- the address table lists under `a` exactly the (absolutized) names written on lines whose address
canonicalises to `a`, in file order. -/
theorem hosts_exact_addrs (canonIP : Str → Option Str) (content : Bytes) (a : Str) :
    (readHostsFile canonIP content).addrs.get a =
      (hostsPairs canonIP content).filterMap fun p => if p.1 = a then some (absName p.2) else none := by
  unfold readHostsFile
  rw [foldl_hostsLine_eq, reader_push _ HostsTbl.addrs (fun p => (p.1, absName p.2)) (fun _ _ => rfl) _ _ rfl]

/-- `LookupHost(q)` returns exactly the addresses written for a name equal to `q` up to ASCII case and a
trailing dot (outside the built-in `localhost.localdomain.` default). -/
theorem hosts_lookup_exact (canonIP : Str → Option Str) (content : Bytes) (q a : Str)
    (hq : prepareHostLookup q ∉ localhostKeys) :
    a ∈ lookupHost (readHostsFile canonIP content).names q ↔
      ∃ p ∈ hostsPairs canonIP content, p.1 = a ∧ prepareHostLookup p.2 = prepareHostLookup q := by
  unfold lookupHost
  rw [hosts_exact_names]
  simp only [hq, false_and, ↓reduceIte, List.mem_filterMap]
  constructor
  · rintro ⟨p, hp, h⟩
    split at h
    · next hk => simp at h; exact ⟨p, hp, h, hk⟩
    · simp at h
  · rintro ⟨p, hp, h1, h2⟩
    exact ⟨p, hp, by simp [h1, h2]⟩

/-- non-vacuity: the file `1.1 A b\n` declares the pairs (1.1, A), (1.1, b); `a.` finds 1.1 -/
example : hostsPairs some [49, 46, 49, 32, 65, 32, 98, 10] = [([49, 46, 49], [65]), ([49, 46, 49], [98])] := by decide +kernel
example : lookupHost (readHostsFile some [49, 46, 49, 32, 65, 32, 98, 10]).names [97, 46] = [[49, 46, 49]] := by decide +kernel
example : prepareHostLookup [97, 46] ∉ localhostKeys := by decide

/-- dnsmasq leases: every value list of the three tables is sorted and duplicate-free and holds exactly
what the records of the file say; a name is filed under its folded form and under the `.local` alias. -/
theorem lease_exact (content : Bytes) :
    let t := readDNSMasqLease content
    let recs := dnsmasqRecs content
    (∀ k, Sorted (t.names.get k) ∧ Sorted (t.addrs.get k) ∧ Sorted (t.macs.get k)) ∧
    (∀ k ip, ip ∈ t.names.get k ↔
      ∃ r ∈ recs, r.2.1 = ip ∧ (k = lower r.2.2 ∨ k = lower r.2.2 ++ localSuffix)) ∧
    (∀ ip name, name ∈ t.addrs.get ip ↔ ∃ r ∈ recs, r.2.1 = ip ∧ r.2.2 = name) ∧
    (∀ mac name, name ∈ t.macs.get mac ↔ ∃ r ∈ recs, r.1 = mac ∧ r.2.2 = name) := by
  intro t recs
  have ht : t = recs.foldl dnsmasqApply {} := readDNSMasqLease_eq content
  -- `dnsmasqApply` is defined as these `pushU`s, hence `rfl`; dhcpd needs `dhcpdApply_tables`
  have hn := reader_pushU dnsmasqApply (·.names) (fun r => namePairs (lower r.2.2) r.2.1) (fun _ _ => rfl) recs {} rfl
  have ha := reader_pushU dnsmasqApply (·.addrs) (fun r => [(r.2.1, r.2.2)]) (fun _ _ => rfl) recs {} rfl
  have hm := reader_pushU dnsmasqApply (·.macs) (fun r => [(r.1, r.2.2)]) (fun _ _ => rfl) recs {} rfl
  rw [← ht] at hn ha hm
  refine ⟨fun k => ⟨(hn k).1, (ha k).1, (hm k).1⟩, fun k ip => ?_, fun ip name => ?_, fun mac name => ?_⟩
  -- by `reader_pushU` both sides list the same pairs; the rest is the order of conjuncts and the direction of equations
  · simp only [(hn k).2, namePairs, List.mem_cons, List.not_mem_nil, or_false, Prod.mk.injEq, ← and_or_left,
      eq_comm (a := ip), and_comm (b := _ = ip)]
  · simp only [(ha ip).2, List.mem_singleton, Prod.mk.injEq, eq_comm (a := ip), eq_comm (a := name)]
  · simp only [(hm mac).2, List.mem_singleton, Prod.mk.injEq, eq_comm (a := mac), eq_comm (a := name)]

/-- ISC dhcpd leases: as `lease_exact`, for the block format; a closed block contributes its name
only when it has one, the address pairs only when it has an address, the MAC pair only with a MAC. -/
theorem lease_exact_dhcpd (content : Bytes) :
    let t := readDHCPDLease content
    let blocks := dhcpdBlocks content
    (∀ k, Sorted (t.names.get k) ∧ Sorted (t.addrs.get k) ∧ Sorted (t.macs.get k)) ∧
    (∀ k ip, ip ∈ t.names.get k ↔ ∃ b ∈ blocks, b.name ≠ [] ∧ b.ip ≠ [] ∧ b.ip = ip ∧
      (k = prepareHostLookup (absName b.name) ∨ k = prepareHostLookup (absName b.name) ++ localSuffix)) ∧
    (∀ ip name, name ∈ t.addrs.get ip ↔ ∃ b ∈ blocks, b.name ≠ [] ∧ b.ip ≠ [] ∧ b.ip = ip ∧ absName b.name = name) ∧
    (∀ mac name, name ∈ t.macs.get mac ↔ ∃ b ∈ blocks, b.name ≠ [] ∧ b.mac ≠ [] ∧ b.mac = mac ∧ absName b.name = name) := by
  intro t blocks
  have ht : t = blocks.foldl dhcpdApply {} := readDHCPDLease_eq content
  have hn := reader_pushU dhcpdApply (·.names) dblockNamePairs (fun t b => (dhcpdApply_tables t b).1) blocks {} rfl
  have ha := reader_pushU dhcpdApply (·.addrs) dblockAddrPairs (fun t b => (dhcpdApply_tables t b).2.1) blocks {} rfl
  have hm := reader_pushU dhcpdApply (·.macs) dblockMacPairs (fun t b => (dhcpdApply_tables t b).2.2) blocks {} rfl
  rw [← ht] at hn ha hm
  refine ⟨fun k => ⟨(hn k).1, (ha k).1, (hm k).1⟩, fun k ip => ?_, fun ip name => ?_, fun mac name => ?_⟩
  -- as in `lease_exact`
  · simp only [(hn k).2, dblockNamePairs, prepareHostLookup, List.mem_ite_nil_right, namePairs, List.mem_cons,
      List.not_mem_nil, or_false, Prod.mk.injEq, ← and_or_left, eq_comm (a := ip), and_comm (b := _ = ip), and_assoc]
  · simp only [(ha ip).2, dblockAddrPairs, List.mem_ite_nil_right, List.mem_singleton, Prod.mk.injEq,
      eq_comm (a := ip), eq_comm (a := name), and_assoc]
  · simp only [(hm mac).2, dblockMacPairs, List.mem_ite_nil_right, List.mem_singleton, Prod.mk.injEq,
      eq_comm (a := mac), eq_comm (a := name), and_assoc]

/-- non-vacuity: the line `t M 1.1 Nas c` is the record (m, 1.1, Nas.) -/
example : dnsmasqRecs [116, 32, 77, 32, 49, 46, 49, 32, 78, 97, 115, 32, 99, 10]
    = [([109], [49, 46, 49], [78, 97, 115, 46])] := by decide +kernel

/-- every state reached by ingesting packets (entries of a packet in any order) satisfies the table
invariant and the cap -/
theorem mdns_invariant (cap : Nat) (pkts : List (List (Str × Str))) :
    PreInv (run cap pkts) ∧ (run cap pkts).names.length ≤ cap := by
  have step : ∀ (s : MState) (e : Str × Str), (PreInv s ∧ s.names.length ≤ cap) →
      (PreInv (ingestOne cap s e) ∧ (ingestOne cap s e).names.length ≤ cap) := by
    intro s e h
    rw [ingestOne_eq]
    split
    · have h2 := afterAdds_preInv s e.1 (absName e.2) h.1
      have h3 := evictLoop_spec cap ((afterAdds s e.1 (absName e.2)).names.length + 1) _ h2
      exact ⟨h3.1, h3.2 (by omega)⟩
    · exact h
  exact run_induct ⟨preInv_init, Nat.zero_le _⟩ step pkts

/-- after every packet sequence the two views agree (`Agree`) -/
theorem mdns_views_agree (cap : Nat) (pkts : List (List (Str × Str))) (a k : Str) :
    a ∈ (run cap pkts).names.vals k ↔ ∃ n ∈ (run cap pkts).addrs.vals a, prepareHostLookup n = k :=
  (mdns_invariant cap pkts).1.agree a k

/-- the name table never holds more than the cap (distinct keys) -/
theorem mdns_cap (cap : Nat) (pkts : List (List (Str × Str))) :
    (run cap pkts).names.length ≤ cap ∧ (keys (run cap pkts).names).Nodup :=
  ⟨(mdns_invariant cap pkts).2, (mdns_invariant cap pkts).1.namesKeys⟩

/-- `mdns_cap` at the cap the code is compiled with (regenerated; any value) -/
theorem mdns_cap_real (pkts : List (List (Str × Str))) :
    (run Gen.mdnsMaxEntries pkts).names.length ≤ Gen.mdnsMaxEntries := (mdns_cap _ pkts).1

/-- each association is listed once -/
theorem mdns_each_once (cap : Nat) (pkts : List (List (Str × Str))) (k : Str) :
    ((run cap pkts).names.vals k).Nodup ∧ ((run cap pkts).addrs.vals k).Nodup :=
  ⟨((mdns_invariant cap pkts).1.sortedN k).nodup, ((mdns_invariant cap pkts).1.sortedA k).nodup⟩

/-- on every state with the invariant, so by `mdns_loop_states_inv` and the last conjunct in every state of
the eviction loop, `removeOldestEntry` removes exactly one key, one whose `lastUpdate` is least. -/
theorem mdns_evicts_lru (s : MState) (h : PreInv s) (hne : s.names ≠ []) :
    ∃ k, k ∈ keys s.names ∧ (∀ p ∈ s.names, (s.names.ent k).stamp ≤ p.2.stamp) ∧
      (removeOldest s).names = mdel s.names k ∧
      (removeOldest s).names.length + 1 = s.names.length ∧ PreInv (removeOldest s) :=
  ⟨_, removeOldest_spec s h hne⟩

/-- the loop states `mdns_evicts_lru` is meant for satisfy its hypothesis -/
theorem mdns_loop_states_inv (cap : Nat) (pkts : List (List (Str × Str))) (addr raw : Str) :
    PreInv (afterAdds (run cap pkts) addr (absName raw)) :=
  afterAdds_preInv _ addr (absName raw) (mdns_invariant cap pkts).1

/-- the unrepaired eviction left the reverse table pointing at the evicted name: after
`foo.` (10) and `bar.` (11), evicting `foo.` leaves address 10 still listing it -/
theorem mdns_old_views_disagree :
    let s := afterAdds (afterAdds {} [49, 48] [102, 111, 111, 46]) [49, 49] [98, 97, 114, 46]
    [102, 111, 111, 46] ∈ (removeOldestOld s).addrs.vals [49, 48] ∧
    [49, 48] ∉ (removeOldestOld s).names.vals [102, 111, 111, 46] := by decide +kernel

/-- non-vacuity: a state with two keys built by `afterAdds`, and the repaired eviction on it -/
example :
    let s := afterAdds (afterAdds {} [49, 48] [70, 111, 111, 46]) [49, 49] [98, 97, 114, 46]
    s.names ≠ [] ∧ (removeOldest s).addrs.vals [49, 48] = [] ∧ keys (removeOldest s).names = [[98, 97, 114, 46]] := by decide +kernel

end NV.C18
