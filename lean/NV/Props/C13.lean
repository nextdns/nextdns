/-
  C13 — client addresses in ECS are consumed, never forwarded upstream.

  SPEC side: `NV.Spec.QueryMsg` (structured query + RFC encoding).  CODE side: `NV.parse`
  (`resolver/query/query.go` `parse` + `nutterECSOption` through the dnsmessage model), tied to
  the real `query.New` by the `parse` correspondence area and to the source constants by
  `NV.Gen.Query`.  All statements quantify over every structured query (any number / order of
  options, any question, any pre-OPT additional records) or over every byte string; no bounds.
-/
import NV.Lemmas.Query
import NV.Gen.Query
namespace NV.C13
open NV NV.Spec

/-- the same query with every client-subnet option replaced by the inert option -/
def consumed (m : QueryMsg) : QueryMsg := { m with opts := m.opts.map neutral }

theorem encode_consumed (m : QueryMsg) :
    encode (consumed m) = front m ++ encOPT m.udpSize m.optTTL (m.opts.map neutral) := rfl

/-- **C13 (headline)**: for every structured query whose options are at most 255 bytes long
(every real ECS option is ≤ 20), `parse` succeeds and the payload it leaves behind — the bytes that
go upstream — is exactly the encoding of the same query in which each ECS option with FAMILY 1/2
and ≥ 8 data bytes has code 0xFFFF and all-zero data of the same length.  `consumed` touches
nothing else and keeps every length (`consumed_same_length`), so EVERY OTHER BYTE (header, question,
other records, other options, option lengths, RDLENGTH) is unchanged. -/
theorem ecs_consumed (m : QueryMsg) (hwf : m.WF) (h255 : ∀ o ∈ m.opts, o.data.length ≤ 255) :
    ∃ q, parse (encode m) = .done .ok q ∧ q.payload = encode (consumed m) := by
  refine ⟨_, parse_encode m hwf, ?_⟩
  rw [applyOpts_payload]
  show (optsFrom (upToOpts m).length m.opts).foldl stepPayload (encode m) = _
  rw [encode_eq_upToOpts, foldl_stepPayload_enc m.opts _ h255, encode_consumed, encOPT_eq, encOpts_neutral_length,
    upToOpts, List.append_assoc]

/-- the rewrite keeps the message length (so all offsets and counts stay valid) -/
theorem consumed_same_length (m : QueryMsg) : (encode (consumed m)).length = (encode m).length := by
  -- `consumed` touches the options only, and `neutral` keeps each one's length
  rw [encode_consumed, encode]
  simp only [encOPT, List.length_append, List.length_cons, encOpts_neutral_length]

/-- what is left in place of a consumed option: code 0xFFFF, the original length, zeros -/
theorem neutral_shape (o : EOpt) (h : isECS o) :
    encOpt (neutral o) = [255, 255] ++ be16 o.data.length ++ List.replicate o.data.length 0 := by
  simp [neutral, h, encOpt, be16, b8]

/-- … and every other option is forwarded untouched -/
theorem other_option_untouched (o : EOpt) (h : ¬ isECS o) : neutral o = o := by
  simp [neutral, h]

/-- **C13 (identity)**: the client address is taken from the last option that carries a full
address (FAMILY 1 with prefix 32; FAMILY 2 with prefix 128 and all 16 address bytes), otherwise
the socket peer is kept (`none`).  Holds for every option length. -/
theorem peer_ip_spec (m : QueryMsg) (hwf : m.WF) :
    ∃ q, parse (encode m) = .done .ok q ∧ q.peerIP = specPeer m.opts none := by
  refine ⟨_, parse_encode m hwf, ?_⟩
  rw [applyOpts_peer, foldl_stepPeer_spec]
  rfl

/-- **C13**: `parse` never changes the length of the payload — for EVERY byte string, also
malformed ones and whatever stage it stops at. -/
theorem payload_length_preserved (payload : Bytes) (st : Stage) (q : Query)
    (h : parse payload = .done st q) : q.payload.length = payload.length :=
  parse_payload_length payload st q h

/-- **C13**: `nutterECSOption` never reads or writes outside the payload: the version of the
function in which every Go index expression is checked never panics, for every payload and
every data offset, and computes the same bytes. -/
theorem nutter_no_oob (payload : Bytes) (dataOff : Nat) :
    nutterECS? payload dataOff = some (nutterECS payload dataOff) :=
  nutterECS?_eq payload dataOff

theorem carried_of_not_isECS {o : EOpt} (h : ¬ isECS o) : carried o = none := by
  unfold carried
  by_cases hc : o.code = 8 ∧ 8 ≤ o.data.length
  · rw [if_pos hc, if_neg fun h1 => h ⟨hc.1, hc.2, .inl h1.1⟩, if_neg fun h2 => h ⟨hc.1, hc.2, .inr h2.1⟩]
  · rw [if_neg hc]

theorem neutral_inert (o : EOpt) : ¬ isECS (neutral o) ∧ carried (neutral o) = none := by
  have key : ¬ isECS (neutral o) := by
    unfold neutral
    by_cases h : isECS o
    · rw [if_pos h]; exact fun h' => absurd h'.1 (show ¬ (0xFFFF : Nat) = 8 by decide)
    · rw [if_neg h]; exact h
  exact ⟨key, carried_of_not_isECS key⟩

/-- **C13 (upstream side)**: the body POSTed by `DOH.resolve` is `q.Payload`
(resolver/doh.go: `bytes.NewReader(q.Payload)`), hence for every structured query with options
≤ 255 bytes it is the encoding of a query none of whose options is a client-subnet option or
carries a full client address. -/
theorem no_address_leaves (m : QueryMsg) (hwf : m.WF) (h255 : ∀ o ∈ m.opts, o.data.length ≤ 255) :
    ∃ q, parse (encode m) = .done .ok q ∧ dohPostBody q = encode (consumed m) ∧
      ∀ o ∈ (consumed m).opts, ¬ isECS o ∧ carried o = none := by
  obtain ⟨q, hq, hp⟩ := ecs_consumed m hwf h255
  exact ⟨q, hq, hp, List.forall_mem_map.mpr fun o _ => neutral_inert o⟩

/-! ### the negative half, kept visible (DESIGN §6 "Recorded rather than repaired", known finding C13-ecs-len-ge-256)

Full statement WITHOUT the length hypothesis — false of the code:
  `∀ m, m.WF → ∃ q, parse (encode m) = .done .ok q ∧ q.payload = encode (consumed m)`.
`nutterECSOption` reads only the LOW byte of OPTION-LENGTH (`size := int(payload[off+3])`), so for
an option of 256·k + r bytes only the first r data bytes are zeroed. -/

/-- witness: one ECS option, FAMILY 1, prefix 32, address 192.0.2.1, padded to 256 data bytes -/
def w256 : QueryMsg :=
  { id := 0x1234, flags := 0x0100, qname := [[97]], qtype := 1, qcls := 1, pre := [],
    udpSize := 1232, optTTL := 0,
    opts := [⟨8, [0, 1, 32, 0, 192, 0, 2, 1] ++ List.replicate 248 0⟩] }

theorem w256_wf : w256.WF := by
  constructor <;> decide +kernel

/-- with OPTION-LENGTH 256 nothing is zeroed: the option code becomes 0xFFFF but the client
address 192.0.2.1 is still in the bytes sent upstream, and it is also used as PeerIP. -/
theorem ecs_len_ge_256_witness :
    ∃ q, parse (encode w256) = .done .ok q ∧ q.payload ≠ encode (consumed w256) ∧
      slice q.payload 38 4 = [192, 0, 2, 1] ∧ q.peerIP = some [192, 0, 2, 1] := by
  refine ⟨_, parse_encode w256 w256_wf, ?_⟩
  -- 38 = 12 + 7 + 11 + 4 + 4: header, question, OPT up to its options, option header, ECS header
  -- the three facts in one evaluation, which computes the rewritten payload once
  rw [applyOpts_payload, applyOpts_peer]
  decide +kernel

/-- tie to the source: the option codes `parse` switches on, and the bytes `nutterECSOption` writes, regenerated
from resolver/query/query.go, are the model's -/
theorem gen_query_consts_agree :
    Gen.edns0Subnet = 8 ∧ Gen.edns0Mac = 0xfde9 ∧ Gen.nutterHi = 255 ∧ Gen.nutterLo = 255 ∧
    Gen.nutterFill = 0 := by decide

/-- the model reacts to no option code other than the two regenerated ones -/
theorem gen_only_two_codes (o : Opt) (q : Query) (h1 : o.code ≠ Gen.edns0Subnet) (h2 : o.code ≠ Gen.edns0Mac) :
    applyOpts [o] q = q := by
  rw [applyOpts_cons, optStep, if_neg (show ¬ o.code = 0xfde9 from h2), if_neg (show ¬ o.code = 8 from h1)]
  rfl

/-- the model writes exactly the regenerated bytes over a consumed option -/
theorem gen_nutter_agree (o : EOpt) (A B : Bytes) (h1 : 1 ≤ o.data.length) (h255 : o.data.length ≤ 255) :
    nutterECS (A ++ (encOpt o ++ B)) (A.length + 4)
      = A ++ ([b8 Gen.nutterHi, b8 Gen.nutterLo] ++ be16 o.data.length
              ++ List.replicate o.data.length (b8 Gen.nutterFill) ++ B) := by
  rw [nutterECS_enc o A B h1 h255]
  simp only [encOpt, List.length_replicate]
  -- the regenerated bytes are 0xFF, 0xFF and 0
  rfl

/-- a well-formed query with a pre-OPT additional record, an IPv4/32 ECS option, a cookie and
an IPv6/128 ECS option: all hypotheses of `ecs_consumed` hold and two options are consumed -/
def ex1 : QueryMsg :=
  { id := 7, flags := 0x0100, qname := [[119, 119, 119], [97]], qtype := 28, qcls := 1,
    pre := [⟨[[120]], 1, 1, 60, [10, 0, 0, 1]⟩],
    udpSize := 4096, optTTL := 0x8000,
    opts := [⟨8, [0, 1, 32, 0, 203, 0, 113, 9]⟩, ⟨10, [1, 2, 3, 4, 5, 6, 7, 8]⟩,
             ⟨8, [0, 2, 128, 0, 32, 1, 13, 184, 0, 0, 0, 0, 0, 0, 0, 0, 0, 0, 0, 5]⟩] }

example : ex1.WF ∧ (∀ o ∈ ex1.opts, o.data.length ≤ 255) := by
  refine ⟨?_, by decide⟩
  constructor <;> decide +kernel

example : (consumed ex1).opts.map (·.code) = [0xFFFF, 10, 0xFFFF] ∧
    specPeer ex1.opts none = some [32, 1, 13, 184, 0, 0, 0, 0, 0, 0, 0, 0, 0, 0, 0, 5] ∧
    encode (consumed ex1) ≠ encode ex1 := by decide +kernel

example : ∃ o, isECS o ∧ ¬ isECS (neutral o) := ⟨⟨8, [0, 1, 32, 0, 1, 2, 3, 4]⟩, by decide⟩
example : ∃ o : EOpt, ¬ isECS o ∧ o.code = 8 := ⟨⟨8, [0, 1, 24]⟩, by decide⟩

end NV.C13
