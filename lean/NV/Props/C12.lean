/-
  C12 — locally answerable names never leave the host.

  CODE side: `NV.Model.Local` (proxy/util.go and the decision flow of `Proxy.Resolve`),
  tied to the real code by the `local` correspondence area; `NV.Model.HostsRefresh` (area `hrefresh`): the tables
  across re-reads of the hosts file.  SPEC side: `NV.Spec.Local`.
  Every statement quantifies over all tables, all queries, all upstream behaviours; the one bound is the
  16-bit answer count of a DNS message (`hcnt` in the `hosts_answer_shape_*` theorems).

  The model is the code AFTER the repair "fold the case of the name in ptrIP" (DESIGN §6, C12;
  repository commit bb54380 `fix: fold case of reverse-lookup names in ptrIP …`).  Before it, `ptrIP` was
  `ptrIPCore` and the theorems below held only for names spelled in lower case
  (`ptrIP_lowercase_only_witness` keeps that visible).
-/
import NV.Model.HostsRefresh
import NV.Lemmas.Local
import NV.Lemmas.Reply
import NV.Gen.Local
namespace NV.C12
open NV NV.Spec

/-- **C12**: `ptrIP` inverts the reverse-lookup name of EVERY IPv4 and IPv6 address, in any
letter case of the name (`IN-ADDR.ARPA`, `Ip6.Arpa`, upper-case hex digits). -/
theorem ptrIP_roundtrip (ip name : Bytes) (hlen : ip.length = 4 ∨ ip.length = 16)
    (hname : lowerASCII name = reverseName ip) : ptrIP name = some ip := by
  rw [ptrIP, hname, ptrIPCore_reverseName ip hlen]

theorem ptrIP_roundtrip_canonical (ip : Bytes) (hlen : ip.length = 4 ∨ ip.length = 16) :
    ptrIP (reverseName ip) = some ip :=
  ptrIP_roundtrip ip _ hlen (reverseName_lower ip hlen)

/-- `ptrIP` and `isPrivateReverse` depend only on the case-folded name -/
theorem ptrIP_case_insensitive (n n' : Bytes) (h : lowerASCII n = lowerASCII n') :
    ptrIP n = ptrIP n' ∧ isPrivateReverse n = isPrivateReverse n' := by
  unfold isPrivateReverse ptrIP; rw [h]; exact ⟨rfl, rfl⟩

/-- the defect that was repaired, kept visible: on the upper-case spelling of 1.0.0.10.in-addr.arpa.
the case-sensitive function finds no address, the repaired one finds 10.0.0.1 -/
theorem ptrIP_lowercase_only_witness :
    let n : Bytes := [49, 46, 48, 46, 48, 46, 49, 48, 46, 73, 78, 45, 65, 68, 68, 82, 46, 65, 82, 80, 65, 46]
    ptrIPCore n = none ∧ ptrIP n = some [10, 0, 0, 1] ∧ isPrivateReverse n = true := by decide +kernel

theorem to4_none (ip : Bytes) (h16 : ip.length = 16) (h0 : byteAt ip 0 ≠ 0) : to4 ip = none := by
  unfold to4
  rw [if_neg (by omega), if_neg]
  rintro ⟨-, e, -⟩
  cases ip with
  | nil => cases h16
  | cons a t =>
    have : a = 0 := by simpa using congrArg List.head? e
    simp [byteAt, this] at h0

theorem isPrivateIP_of_class (ip : Bytes) (h : inPrivateClass ip) : isPrivateIP ip = true := by
  rcases h with ⟨h4, hc⟩ | ⟨h16, hc⟩
  · have ht : to4 ip = some ip := by simp [to4, h4]
    unfold isPrivateIP isLoopback isLinkLocalUnicast privV4
    simp only [ht]
    rcases hc with h10 | ⟨h172, lo, hi⟩ | ⟨h192, h168⟩ | h127 | ⟨h169, h254⟩
    · simp [h10]
    · have : byteAt ip 1 / 16 = 1 := by omega
      simp [h172, this]
    · simp [h192, h168]
    · simp [h127]
    · simp [h169, h254]
  · rcases hc with hfd | hlo | ⟨hfe, lo, hi⟩
    · unfold isPrivateIP privV6
      simp [to4_none ip h16 (by omega), hfd]
    · subst hlo; decide
    · have : byteAt ip 1 / 64 = 2 := by omega
      unfold isPrivateIP isLinkLocalUnicast
      simp [to4_none ip h16 (by omega), h16, hfe, this]

/-- **C12**: the reverse name (any letter case) of every address in 10/8, 172.16/12, 192.168/16,
127/8, 169.254/16, fd00::/8, ::1, fe80::/10 is recognised as private. -/
theorem private_reverse (ip name : Bytes) (hc : inPrivateClass ip)
    (hname : lowerASCII name = reverseName ip) : isPrivateReverse name = true := by
  have hlen : ip.length = 4 ∨ ip.length = 16 := by
    rcases hc with ⟨h, _⟩ | ⟨h, _⟩
    · exact .inl h
    · exact .inr h
  unfold isPrivateReverse
  rw [ptrIP_roundtrip ip name hlen hname]
  exact isPrivateIP_of_class ip hc

/-- the suffix literals of the three `strings.HasSuffix` tests of `ptrIP` are the model's -/
theorem gen_suffixes_agree :
    Gen.sufArpa = sufArpa ∧ Gen.sufInAddr = sufInAddr ∧ Gen.sufIp6 = sufIp6 := by decide

/-- the two range expressions of `isPrivateReverse`, translated operator by operator from the
source, agree with the model for all byte values -/
theorem gen_ranges_agree (b0 b1 : Nat) (h1 : b1 < 256) :
    Gen.privV4 b0 b1 = privV4 b0 b1 ∧ Gen.privV6 b0 b1 = privV6 b0 := by
  -- the same Boolean formula once `&&& 240 == 16` (`16 ≤ b ≤ 31`) is the model's `/ 16 = 1` and `==` is `decide (· = ·)`
  have and240 : ∀ b < 256, ((b &&& 240) == 16) = decide (b / 16 = 1) := by decide +kernel
  simp [Gen.privV4, privV4, Gen.privV6, privV6, and240 b1 h1, Bool.or_assoc, Bool.beq_eq_decide_eq]

/-- **C12**: with bogus-priv, a PTR query for a private reverse name makes NO upstream call,
whatever the tables and whatever the upstream would have said; the reply is the local hosts answer,
a discovery answer, or `replyRCode 3 q`, the proxy's own NXDOMAIN (its ID and RCODE: `nxdomain_shape`; that its
question is the query's is `NV.C01.local_reply_id_question`). -/
theorem bogus_priv_no_upstream (c : Cfg) (q : Query) (up : UpRes)
    (hb : c.bogus = true) (ht : q.type = 12) (hp : isPrivateReverse q.name = true) :
    (resolve c q up).calls = 0 ∧ (resolve c q up).err = false ∧
    ((resolve c q up).buf = replyRCode 3 q ∨
     (∃ t, c.loc = some t ∧ (hostsResolve t q).out = some (resolve c q up).buf) ∨
     (∃ t, c.disc = some t ∧ (hostsResolve t q).out = some (resolve c q up).buf)) := by
  rw [resolve_eq]
  cases hl : slotOut c.loc q with
  | some m => exact ⟨rfl, rfl, .inr (.inl (slotOut_eq_some.mp hl))⟩
  | none =>
    simp only [hb, ht, hp, and_self, if_true]
    cases hd : (if q.rd = true then slotOut c.disc q else none) with
    | some m =>
      refine ⟨rfl, rfl, .inr (.inr (slotOut_eq_some.mp ?_))⟩
      split at hd
      · exact hd
      · cases hd
    | none => exact ⟨rfl, rfl, .inl rfl⟩

/-- the NXDOMAIN of `bogus_priv_no_upstream` is a response with the query's ID and RCODE 3 -/
theorem nxdomain_shape (q : Query) :
    (replyRCode 3 q).take 4 = be16 q.id ++ be16 (32768 + 3) :=
  (replyRCode_shape 3 q).1

/-- **C12**: whenever the local (hosts) resolver can answer, its answer is returned and NO upstream
call is made — for every configuration, query and upstream behaviour. -/
theorem hosts_hit_no_upstream (c : Cfg) (q : Query) (up : UpRes) (t : HostTab) (m : Bytes)
    (hl : c.loc = some t) (hm : (hostsResolve t q).out = some m) :
    resolve c q up = ⟨m.length, false, 0, m⟩ := by
  rw [resolve_eq, slotOut_eq_some.mpr ⟨t, hl, hm⟩]

/-- when nothing answers locally and the query is not a bogus-priv case, `Resolve` hands back exactly
what the upstream produced — `n`, `err` and the bytes it left in the buffer — after exactly one call.
(Before the repair "build local answers in a separate buffer" a failed discovery attempt could
overwrite those bytes: corpus/local/003.) -/
theorem fallthrough_returns_upstream (c : Cfg) (q : Query) (up : UpRes)
    (hl : ∀ t, c.loc = some t → (hostsResolve t q).out = none)
    (hd : ∀ t, c.disc = some t → (hostsResolve t q).out = none)
    (hnb : ¬ (c.bogus = true ∧ q.type = 12 ∧ isPrivateReverse q.name = true)) :
    resolve c q up = ⟨up.n, up.err, 1, up.bytes.take up.n.toNat⟩ := by
  rw [resolve_eq, slotOut_eq_none.mpr hl, slotOut_eq_none.mpr hd]
  simp only [hnb, if_false, ite_self]

/-- hosts lookups fold the case of the queried name (`lowerASCII` in `Resolver.LookupHost`, `prepareHostLookup`) -/
theorem lookupHost_case_insensitive (t : HostTab) (n n' : Bytes) (h : lowerASCII n = lowerASCII n') :
    t.lookupHost n = t.lookupHost n' := by
  unfold HostTab.lookupHost; rw [h]

/-- **C12**: what the hosts file lists is found, in any letter case of the queried name: if an
accepted line gives address `a` the name `n`, then looking up any spelling of `n` in the table
`discovery.Hosts` builds yields `a` (so the lookup is non-empty: a hit), and looking up the text of
`a` yields `n.` (when that text is lower-case, as `IP.String` output is). -/
theorem listed_name_found (ls : List HostLine) (a : Addr) (ns : List Bytes) (n name : Bytes)
    (hl : (a, ns) ∈ ls) (hn : n ∈ ns) (hcase : lowerASCII name = lowerASCII n) :
    a ∈ (buildHosts ls).lookupHost name ∧
    (lowerASCII a.str = a.str → absName n ∈ (buildHosts ls).lookupAddr a.str) := by
  have h := listed_foldLine_self a ns n ls hl hn ([], [])
  constructor
  · rw [lookupHost_case_insensitive _ name n hcase]
    show has (buildHosts ls).names (absName (lowerASCII n)) a
    exact has_hostsDflt _ _ _ _ (has_hostsDflt _ _ _ _ h.1)
  · intro hlow
    rw [HostTab.lookupAddr, hlow]
    exact h.2

/-- the header bits of a local answer: QR and RA set, opcode/AA/TC/RD of the query kept, RCODE 0.  A copy of the
`let bits := …` of `hostsResolve` (Model/Local.lean), which the model does not name: an edit there fails the closing
`simp` of `hosts_answer_shape`. -/
def answerBits (bits : Nat) : Nat := (bits / 256 % 128) * 256 + 32768 + 128

/-- the RDATA list `hostsResolve` answers with, by query type -/
def localRData (t : HostTab) (q : Query) : List Bytes :=
  if q.type = 1 then ((t.lookupHost q.name).filter (·.hasDot)).filterMap Addr.as4
  else if q.type = 28 then ((t.lookupHost q.name).filter (fun a => !a.hasDot)).filterMap Addr.as16
  else if q.type = 12 then
    ((t.lookupAddr (ipString (ptrIP q.name))).filter (fun n => n.getLast? = some 46)).filterMap packName
  else []

/-- the three loops of `hostsResolve` (its `let s := …`, copied on the left; no loop for the other types) add the
records of `localRData` in order -/
theorem hostsFold_eq (t : HostTab) (q : Query) (qn : Bytes) (cls : Nat) (s0 : BSt) (h0 : s0.abort = false)
    (hvalid : q.type = 12 → ∀ n ∈ t.lookupAddr (ipString (ptrIP q.name)), n.getLast? = some 46 → (packName n).isSome) :
    (if q.type = 1 then
        ((t.lookupHost q.name).filter (·.hasDot)).foldl (fun s a => addIf s (some qn) 1 cls a.as4) s0
      else if q.type = 28 then
        ((t.lookupHost q.name).filter (fun a => !a.hasDot)).foldl (fun s a => addIf s (some qn) 28 cls a.as16) s0
      else if q.type = 12 then
        ((t.lookupAddr (ipString (ptrIP q.name))).filter (fun n => n.getLast? = some 46)).foldl
          (fun s n => addPtr s (some qn) cls n) s0
      else s0)
      = (localRData t q).foldl (fun s rd => addRR s (some qn) q.type cls (some rd)) s0 := by
  unfold localRData
  by_cases h1 : q.type = 1
  · rw [if_pos h1, if_pos h1, h1, foldl_addIf]
  by_cases h28 : q.type = 28
  · rw [if_neg h1, if_neg h1, if_pos h28, if_pos h28, h28, foldl_addIf]
  by_cases h12 : q.type = 12
  · rw [if_neg h1, if_neg h1, if_neg h28, if_neg h28, if_pos h12, if_pos h12, h12,
      foldl_addPtr_eq qn cls _ (fun n hn => by
        simp only [List.mem_filter, decide_eq_true_eq] at hn; exact hvalid h12 n hn.1 hn.2) _ h0, foldl_addIf]
  · rw [if_neg h1, if_neg h1, if_neg h28, if_neg h28, if_neg h12, if_neg h12]; rfl

/-- when the table lists what is asked for, `hostsResolve` answers with the query's ID and question and one record per
entry of `localRData` -/
theorem hosts_answer_shape (t : HostTab) (q : Query) (p p' : Parser) (qu : Question) (qn : Bytes)
    (hfound : if q.type = 12 then t.lookupAddr (ipString (ptrIP q.name)) ≠ [] else t.lookupHost q.name ≠ [])
    (hs : Parser.start q.payload = .ok p) (hq : p.question = (.ok qu, p')) (hqn : packName qu.name = some qn)
    (hvalid : q.type = 12 → ∀ n ∈ t.lookupAddr (ipString (ptrIP q.name)), n.getLast? = some 46 → (packName n).isSome)
    (hcnt : (localRData t q).length < 65536) :
    (hostsResolve t q).out =
      some (answerMsg p.id (answerBits p.bits) qn qu.type qu.cls q.type (localRData t q)) := by
  have hne : (if q.type = 12 then !(t.lookupAddr (ipString (ptrIP q.name))).isEmpty
      else !(t.lookupHost q.name).isEmpty) = true := by
    by_cases h : q.type = 12 <;> simpa [h] using hfound
  unfold hostsResolve
  simp only [hne, hs, hq, hqn, Bool.not_true, Bool.false_eq_true, if_false]
  rw [hostsFold_eq t q qn qu.cls _ rfl hvalid, foldl_addRR _ _ _ _ _ _ _ hcnt]
  simp [answerMsg, answerBits]

/-- **C12 (A)**: a name listed in the table (case-folded lookup non-empty), asked for type A:
the answer carries the query's ID and question and exactly the listed IPv4 addresses. -/
theorem hosts_answer_shape_A (t : HostTab) (q : Query) (p p' : Parser) (qu : Question) (qn : Bytes)
    (hty : q.type = 1) (hfound : t.lookupHost q.name ≠ [])
    (hs : Parser.start q.payload = .ok p) (hq : p.question = (.ok qu, p')) (hqn : packName qu.name = some qn)
    (hcnt : (t.lookupHost q.name).length < 65536) :
    (hostsResolve t q).out = some (answerMsg p.id (answerBits p.bits) qn qu.type qu.cls 1
      (((t.lookupHost q.name).filter (·.hasDot)).filterMap Addr.as4)) := by
  have := hosts_answer_shape t q p p' qu qn (by simpa [hty] using hfound) hs hq hqn (by simp [hty])
  simp only [localRData, hty, if_true] at this
  exact this (Nat.lt_of_le_of_lt (Nat.le_trans (List.length_filterMap_le _ _) (List.length_filter_le _ _)) hcnt)

/-- **C12 (AAAA)**: … exactly the listed IPv6 addresses. -/
theorem hosts_answer_shape_AAAA (t : HostTab) (q : Query) (p p' : Parser) (qu : Question) (qn : Bytes)
    (hty : q.type = 28) (hfound : t.lookupHost q.name ≠ [])
    (hs : Parser.start q.payload = .ok p) (hq : p.question = (.ok qu, p')) (hqn : packName qu.name = some qn)
    (hcnt : (t.lookupHost q.name).length < 65536) :
    (hostsResolve t q).out = some (answerMsg p.id (answerBits p.bits) qn qu.type qu.cls 28
      (((t.lookupHost q.name).filter (fun a => !a.hasDot)).filterMap Addr.as16)) := by
  have := hosts_answer_shape t q p p' qu qn (by simpa [hty] using hfound) hs hq hqn (by simp [hty])
  simp only [localRData, hty, if_true, if_false, Nat.reduceEqDiff] at this
  exact this (Nat.lt_of_le_of_lt (Nat.le_trans (List.length_filterMap_le _ _) (List.length_filter_le _ _)) hcnt)

/-- **C12 (other types)**: … an empty NOERROR answer, not NXDOMAIN (no upstream call: `hosts_hit_no_upstream`). -/
theorem hosts_answer_shape_other (t : HostTab) (q : Query) (p p' : Parser) (qu : Question) (qn : Bytes)
    (hty : q.type ≠ 1 ∧ q.type ≠ 28 ∧ q.type ≠ 12) (hfound : t.lookupHost q.name ≠ [])
    (hs : Parser.start q.payload = .ok p) (hq : p.question = (.ok qu, p')) (hqn : packName qu.name = some qn) :
    (hostsResolve t q).out = some (answerMsg p.id (answerBits p.bits) qn qu.type qu.cls 0 []) := by
  obtain ⟨h1, h28, h12⟩ := hty
  have := hosts_answer_shape t q p p' qu qn (by simpa [h12] using hfound) hs hq hqn (by simp [h12])
  simp only [localRData, h1, h28, h12, if_false] at this
  exact this (Nat.zero_lt_succ _)  -- without records `answerMsg` ignores the record type: `0` for `q.type`

/-- **C12 (PTR)**: an address listed in the table (looked up under the text form of the address the
name denotes), asked for type PTR, all listed names absolute and valid DNS names: the answer carries
the query's ID and question and exactly the listed names.  (`hvalid` is needed: `unpackable_ptr_falls_through`.) -/
theorem hosts_answer_shape_PTR_partial (t : HostTab) (q : Query) (p p' : Parser) (qu : Question) (qn : Bytes)
    (hty : q.type = 12) (hfound : t.lookupAddr (ipString (ptrIP q.name)) ≠ [])
    (hs : Parser.start q.payload = .ok p) (hq : p.question = (.ok qu, p')) (hqn : packName qu.name = some qn)
    (hvalid : ∀ n ∈ t.lookupAddr (ipString (ptrIP q.name)), n.getLast? = some 46 ∧ (packName n).isSome)
    (hcnt : (t.lookupAddr (ipString (ptrIP q.name))).length < 65536) :
    (hostsResolve t q).out = some (answerMsg p.id (answerBits p.bits) qn qu.type qu.cls 12
      ((t.lookupAddr (ipString (ptrIP q.name))).filterMap packName)) := by
  have hfil : (t.lookupAddr (ipString (ptrIP q.name))).filter (fun n => n.getLast? = some 46)
      = t.lookupAddr (ipString (ptrIP q.name)) :=
    List.filter_eq_self.mpr fun n hn => by simp [(hvalid n hn).1]
  have := hosts_answer_shape t q p p' qu qn (by simpa [hty] using hfound) hs hq hqn
    (fun _ n hn _ => (hvalid n hn).2)
  simp only [localRData, hty, if_true, if_false, Nat.reduceEqDiff, hfil] at this
  exact this (Nat.lt_of_le_of_lt (List.length_filterMap_le _ _) hcnt)

/-- the negative half, kept visible: the full statement without `hvalid` is false.  When the one
listed PTR target does not pack as a DNS name — an empty label as in `bad..name.`, or a label of
more than 63 bytes — `hostsResolve` fails although the address IS listed, and `Proxy.Resolve` (with this
table alone, bogus-priv off) then asks the upstream. -/
theorem unpackable_ptr_falls_through (t : HostTab) (q : Query) (p p' : Parser) (qu : Question) (n : Bytes)
    (hty : q.type = 12) (hs : Parser.start q.payload = .ok p) (hq : p.question = (.ok qu, p'))
    (hlisted : t.lookupAddr (ipString (ptrIP q.name)) = [n])
    (hdot : n.getLast? = some 46) (hlen : n.length ≤ 255) (hbad : packName n = none) :
    (hostsResolve t q).out = none ∧
    ∀ up, (resolve { loc := some t, disc := none, bogus := false } q up).calls = 1 := by
  -- whatever the Builder holds, `PTRResource` with a name that does not pack sets `err`
  have herr : ∀ (qn : Option Bytes) (s0 : BSt), s0.abort = false → (addPtr s0 qn qu.cls n).err = true := by
    intro qn s0 h0
    rw [addPtr, h0, if_neg (by simp), if_neg (Nat.not_lt.mpr hlen), hbad]
    cases qn <;> rfl
  have hout : (hostsResolve t q).out = none := by
    unfold hostsResolve
    simp only [hty, hlisted, hs, hq, hdot, List.filter_cons, List.filter_nil, decide_true, if_true, List.foldl_cons,
      List.foldl_nil, List.isEmpty_cons, Bool.not_false, Bool.not_true, Bool.false_eq_true, if_false,
      Nat.reduceEqDiff]
    rw [herr _ _ rfl]
    rfl
  -- the fall-through case: the table fails, no discovery table, bogus-priv off
  refine ⟨hout, fun up => congrArg RRes.calls (fallthrough_returns_upstream _ q up ?_ ?_ ?_)⟩
  · rintro _ ⟨⟩; exact hout
  · rintro _ ⟨⟩
  · rintro ⟨⟨⟩, -⟩

/-- `bad..name.` is such a target -/
example : let n : Bytes := [98, 97, 100, 46, 46, 110, 97, 109, 101, 46]
    n.getLast? = some 46 ∧ n.length ≤ 255 ∧ packName n = none := by decide

/-- non-vacuity of `private_reverse`: members of the classes, and two addresses just outside -/
example : inPrivateClass [10, 0, 0, 1] ∧ inPrivateClass [172, 31, 255, 1] ∧ inPrivateClass [169, 254, 1, 1] ∧
    inPrivateClass ip6Loopback ∧ inPrivateClass ([254, 191] ++ List.replicate 14 7) ∧
    inPrivateClass ([253] ++ List.replicate 15 1) ∧ ¬ inPrivateClass [172, 32, 0, 1] ∧ ¬ inPrivateClass [11, 0, 0, 1] := by
  decide +kernel

/-- the reverse names the theorems speak about are the usual ones:
`8.16.155.10.in-addr.arpa.` and `1.0.0.….0.ip6.arpa.` (32 labels) -/
example : reverseName [10, 155, 16, 8] =
      [56, 46, 49, 54, 46, 49, 53, 53, 46, 49, 48, 46, 105, 110, 45, 97, 100, 100, 114, 46, 97, 114, 112, 97, 46] ∧
    reverseName ip6Loopback =
      49 :: ((List.replicate 31 [46, 48]).flatten ++ [46, 105, 112, 54, 46, 97, 114, 112, 97, 46]) ∧
    lowerASCII (reverseName [10, 155, 16, 8]) = reverseName [10, 155, 16, 8] := by
  decide +kernel

/-- a hosts file `192.168.1.5 NAS`: the name is found under another spelling, the address under its
text: `listed_name_found`, and `hfound` of `hosts_answer_shape_A` / `_PTR_partial` (no payload shown) -/
example :
    let t : HostTab := buildHosts [(.ip [192, 168, 1, 5], [[78, 65, 83]])]
    t.lookupHost [110, 65, 115, 46] = [.ip [192, 168, 1, 5]] ∧
    t.lookupAddr (ipString (ptrIP (reverseName [192, 168, 1, 5]))) = [[78, 65, 83, 46]] ∧
    t.lookupHost (lhdName) = loAddrs := by decide +kernel

/-- a failed re-read of the hosts file keeps the last good tables -/
theorem refresh_fail_keeps_tables (tables part : List Bytes) :
    HostsRefresh.refresh tables (.fail part) = tables := rfl

/-- **C12 (listed names stay local across refreshes)**: a name that was in the tables and is listed
in the rewritten file is answered locally after the refresh, whether the re-read succeeded or
failed (open error, scanner error, path now a directory). -/
theorem listed_in_both_stays_local (tables new part : List Bytes) (n : Bytes) (ok : Bool)
    (hold : HostsRefresh.local? tables n = true) (hnew : HostsRefresh.local? new n = true) :
    HostsRefresh.local? (HostsRefresh.refresh tables (if ok then .ok new else .fail part)) n = true := by
  cases ok <;> simpa [HostsRefresh.refresh]

end NV.C12
