/-
  C10 — split-horizon: each query goes to exactly the matching forwarder.

  "With forwarders configured, a query is sent to exactly one upstream: the first forwarder whose
  domain equals the query name or is a parent of it on a label boundary, compared case-insensitively
  as DNS names are, else the default NextDNS upstream.  It is never sent to any other upstream."

  Statements are about NV.Model.Forwarder (config/forwarder.go after the repair
  `fix: compare forwarder domains case-insensitively`, plus the catch-all appended by run.go) and
  hold for every forwarder list, every name, every upstream behaviour — no bound.
-/
import NV.Lemmas.PkgState
import NV.Model.Forwarder
import NV.Lemmas.Forwarder
import NV.Gen.Run
namespace NV.C10
open NV NV.Fwd

/-- **C10 (case)**: `Match` does not distinguish ASCII case, on either side.
(False on the unrepaired tree: see `matchExact_case_sensitive_witness`.) -/
theorem match_case_insensitive (d n : Bytes) : matchD d n = matchD (lower d) (lower n) := by
  rw [matchD_eq_matchExact d n, matchD_eq_matchExact (lower d), lower_lower, lower_lower]

/-- … hence any two 0x20 spellings of a rule and of a name are treated alike -/
theorem match_fold_invariant (d d' n n' : Bytes) (hd : lower d = lower d') (hn : lower n = lower n') :
    matchD d n = matchD d' n' := by
  rw [match_case_insensitive d n, match_case_insensitive d' n', hd, hn]

example : lower (str "CoRp.") = lower (str "corp.") ∧ lower (str "Host.CORP.") = lower (str "hOST.corp.") ∧
    matchD (str "CoRp.") (str "Host.CORP.") = true := by decide +kernel

/-- **C10 (label boundary)**: read a text as a sequence of dot-terminated labels (`render`); for ALL
label lists without '.' inside a label — rule side and name side, any case mix — `Match` holds exactly
when the rule's labels are a suffix of the name's labels under ASCII case folding.  So `notcorp.`
never matches `corp.`, `Host.CORP.` always does.  (`render [] = ""` is the rule without domain, which
matches everything; the text "." is `render [[]]`, ONE empty label — see `match_absName` for what
that means for a root-domain rule.) -/
theorem match_iff_label_suffix (dl nl : List Bytes) (hd : ∀ l ∈ dl, dot ∉ l) (hn : ∀ l ∈ nl, dot ∉ l) :
    matchD (render dl) (render nl) = labelSuffix dl nl := by
  rw [matchD_eq_matchExact, lower_render, lower_render]
  exact matchExact_render _ _ (dotfree_map_lower hd) (dotfree_map_lower hn)

example : (∀ l ∈ [str "corp"], dot ∉ l) ∧ labelSuffix [str "corp"] [str "notcorp"] = false ∧
    labelSuffix [str "corp"] [str "Host", str "CORP"] = true := by
  decide +kernel

/-- **absolute names**: what `Match` decides for a well-formed rule domain and name, root included.  The
root's text "." reads as one EMPTY label, which no well-formed label equals: a root rule matches only the
root, and the root name is matched by the root rule only. -/
theorem match_absName (dl nl : List Bytes) (hd : WF dl) (hn : WF nl) :
    matchD (absName dl) (absName nl) = if dl = [] then nl.isEmpty else labelSuffix dl nl := by
  rw [absName_eq_render, absName_eq_render, match_iff_label_suffix _ _ (dotfree_absName hd) (dotfree_absName hn)]
  -- rule and name with labels: both sides are `labelSuffix dl nl`
  by_cases hdl : dl = [] <;> by_cases hnl : nl = [] <;> simp only [hdl, hnl, ↓reduceIte]
  · rfl  -- both the root: `labelSuffix [[]] [[]]` evaluates to `true`
  · -- root rule, name with labels: the empty label is none of them
    rw [List.isEmpty_eq_false_iff.2 hnl]
    exact Bool.eq_false_iff.2 fun h => nil_not_mem_lower hn (labelSuffix_subset h (List.mem_singleton_self _))
  · -- rule with labels, root name: false on both sides, since a rule label is not empty, while the root has only
    -- empty labels (read as `[[]]`) or none (read as `[]`)
    obtain ⟨l, hl⟩ := List.exists_mem_of_ne_nil dl hdl
    have hm : lower l ∈ dl.map lower := List.mem_map_of_mem hl
    have no_suffix (ls : List Bytes) (h0 : ∀ x ∈ ls.map lower, x = []) : labelSuffix dl ls = false :=
      Bool.eq_false_iff.2 fun h => nil_not_mem_lower hd (h0 _ (labelSuffix_subset h hm) ▸ hm)
    rw [no_suffix [[]] (by simp), no_suffix [] (by simp)]

/-- **C10 (label boundary, DNS reading)**: for a rule domain with at least one label and any query name, both
absolute and made of non-empty labels without '.', `Match` holds exactly when the rule's labels
are a suffix of the name's labels under case folding.

Full statement wanted by the property (kept visible): the same with `dl = []` allowed, i.e. a rule for
the root domain "." matches every name.  That is FALSE of the code — `match_root_rule_only_root` —
and recorded as an open finding (C10-root-domain-rule); names whose labels contain '.' are excluded
because their text is ambiguous (DESIGN §6, the C01/C06 finding on labels containing `.`). -/
theorem match_iff_label_suffix_partial (dl nl : List Bytes) (hne : dl ≠ []) (hd : WF dl) (hn : WF nl) :
    matchD (absName dl) (absName nl) = labelSuffix dl nl :=
  (match_absName dl nl hd hn).trans (if_neg hne)

/-- the hypotheses are satisfiable, both ways: "Host.CORP." under "corp." ; "notcorp." is not -/
example : WF [[99,111,114,112]] ∧ WF [[72,111,115,116],[67,79,82,80]] ∧
    labelSuffix [[99,111,114,112]] [[72,111,115,116],[67,79,82,80]] = true := by
  decide

/-- **witness** (string suffix is not label suffix): `notcorp.` does not match the rule `corp.`,
`host.corp.` and `CORP.` do -/
theorem notcorp_not_corp :
    matchD (str "corp.") (str "notcorp.") = false ∧
    matchD (str "corp.") (str "host.corp.") = true ∧
    matchD (str "corp.") (str "CORP.") = true ∧
    matchD (str "corp.") (str "Host.CORP.") = true ∧
    matchD (str "Corp.") (str "host.corP.") = true := by decide +kernel

/-- negative half kept visible: the matcher of the unrepaired tree is case-sensitive
(DESIGN §6, repaired in 816257c; replayed on the real code by corpus/fwd/001-case-host-corp.txt) -/
theorem matchExact_case_sensitive_witness :
    matchExact (str "corp.") (str "Host.CORP.") = false ∧
    matchExact (str "corp.") (str "host.corp.") = true := by decide +kernel

/-- negative half of `match_iff_label_suffix_partial`: a rule for the root domain (`.=addr`, also what
`=addr` parses to) matches the root name and nothing below it, although the root is an ancestor
of every name (`labelSuffix [] nl = true`).  Open finding C10-root-domain-rule. -/
theorem match_root_rule_only_root :
    matchD (absName []) (absName []) = true ∧
    matchD (absName []) (absName [(str "example"), (str "com")]) = false ∧
    labelSuffix [] [(str "example"), (str "com")] = true ∧
    (newResolver (str "=192.0.2.1")).1 = absName [] :=
  ⟨match_absName [] [] (by decide) (by decide),
    match_absName [] _ (by decide) (by decide +kernel), by decide +kernel, by decide +kernel⟩

/-- a rule without domain (the catch-all of run.go, or a bare `-forwarder ADDR`) matches everything -/
theorem match_unconditional (n : Bytes) : matchD [] n = true := by simp [matchD]

/-- **C10 (first match)**: `Get` returns upstream `u` iff the list splits into rules that do not
match, then a rule of `u` that matches. -/
theorem get_first (fs : List Fw) (n : Bytes) (u : Nat) :
    getFw fs n = some u ↔
      ∃ pre f post, fs = pre ++ f :: post ∧ f.up = u ∧ matchD f.domain n = true ∧
        ∀ g ∈ pre, matchD g.domain n = false := by
  simp only [getFw_eq_find, Option.map_eq_some_iff, List.find?_eq_some_iff_append, Bool.not_eq_eq_eq_not,
    Bool.not_true]
  constructor
  · rintro ⟨f, ⟨hf, pre, post, he, hp⟩, hu⟩
    exact ⟨pre, f, post, he, hu, hf, hp⟩
  · rintro ⟨pre, f, post, he, hu, hf, hp⟩
    exact ⟨f, ⟨hf, pre, post, he, hp⟩, hu⟩

/-- **C10 (else the default)**: with the catch-all of run.go appended, the chosen upstream is the first
matching configured rule's, and the default exactly when no configured rule matches. -/
theorem get_catchall (fs : List Fw) (dflt : Nat) (n : Bytes) :
    getFw (withCatchAll fs dflt) n = some ((getFw fs n).getD dflt) := by
  have hc : getFw [{ domain := [], addr := [], up := dflt }] n = some dflt := if_pos (match_unconditional n)
  rw [withCatchAll, getFw_append, hc, Option.or_some]

/-- the shape of the catch-all block is re-read from run.go on every check -/
theorem gen_catchall_agree :
    Gen.Run.catchAllDomain = (withCatchAll [] 0).head!.domain ∧
    Gen.Run.catchAllIsLast = true ∧ Gen.Run.catchAllKeepsOrder = true := by decide

/-- **C10 (exactly one)**: with the catch-all present, `Forwarders.Resolve` calls exactly one
upstream, exactly once — the one `Get` designates — and hands its result through; no other upstream
sees the query, whatever the upstreams do. -/
theorem exactly_one_upstream (ups : Nat → Bytes → Nat) (fs : List Fw) (dflt : Nat) (n : Bytes) :
    let u := (getFw fs n).getD dflt
    resolve ups (withCatchAll fs dflt) n = (.passed (ups u n), [u]) ∧
    (∀ v, v ≠ u → (resolve ups (withCatchAll fs dflt) n).2.count v = 0) ∧
    (resolve ups (withCatchAll fs dflt) n).2.count u = 1 := by
  intro u
  have h : resolve ups (withCatchAll fs dflt) n = (.passed (ups u n), [u]) := by
    unfold resolve; rw [get_catchall]
  rw [h]
  exact ⟨rfl, fun v hv => List.count_eq_zero.2 (by simpa using hv), by simp⟩

/-- without a matching rule and without catch-all nothing is called at all (error reply) -/
theorem resolve_no_forwarder (ups : Nat → Bytes → Nat) (fs : List Fw) (n : Bytes)
    (h : ∀ f ∈ fs, matchD f.domain n = false) : resolve ups fs n = (.noForwarder, []) := by
  unfold resolve; rw [(getFw_eq_none fs n).2 h]

example : (∀ f ∈ [({ domain := str "corp.", addr := [], up := 0 } : Fw)], matchD f.domain (str "notcorp.") = false) ∧
    resolve (fun u _ => 1000 + u) [{ domain := str "corp.", addr := [], up := 0 }] (str "notcorp.") = (.noForwarder, []) := by
  decide +kernel

/-- **C10 (no leak, in label terms)**: all rules with well-formed non-root domains (or no domain),
well-formed name: the default upstream is the one called iff no rule's domain is the name or an
ancestor of it; otherwise the called upstream belongs to the FIRST such rule. -/
theorem default_iff_no_rule_partial (rules : List (List Bytes × Nat)) (dflt : Nat) (nl : List Bytes)
    (hr : ∀ r ∈ rules, r.1 ≠ [] ∧ WF r.1) (hn : WF nl) :
    let fs := rules.map fun r => ({ domain := absName r.1, addr := [], up := r.2 } : Fw)
    getFw (withCatchAll fs dflt) (absName nl) =
      some (((rules.find? fun r => labelSuffix r.1 nl).map (·.2)).getD dflt) := by
  intro fs
  rw [get_catchall, getFw_eq_find, List.find?_map, Option.map_map]
  simp only [Function.comp_def]
  rw [find?_congr fun r h => match_iff_label_suffix_partial r.1 nl (hr r h).1 (hr r h).2 hn]

example : (∀ r ∈ [([[99,111,114,112]], 7)], r.1 ≠ [] ∧ WF r.1) := by
  decide

/-- **regenerated (no hidden state between exchanges)**, as `NV.C03.gen_no_hidden_process_state`: no package-level
variable of the query-path packages is written after initialisation except the root-certificate pool — the upstream a
query reaches is decided by the rule list and the chosen resolver alone. -/
theorem gen_no_hidden_process_state :
    (Gen.PkgState.table.all fun r =>
      r.2.2.isEmpty || (r.1 == "resolver/endpoint" && (r.2.1 == "rootCAInit" || r.2.1 == "rootCAs"))) = true :=
  Gen.PkgState.only_rootCA_written

end NV.C10
