/-
  C09 — failover and recovery make progress; the manager never deadlocks.

  Two ties to the source:
  * `NV.Gen.ManagerCFG` — the control-flow graphs of every Manager / activeEnpoint method that takes a
    lock (go/cfg, regenerated on every run), projected on `m.mu` write / read, on `e.mu` write / read /
    any, and on the mutex of the object `findBestEndpointLocked` holds in its local `ae`;
    `mu_balanced` is the kernel-checked certificate that EVERY path of every function gives
    back what it took and that every `…Locked` callee is reached with its lock held.  On the tree
    before `fix: unlock the manager mutex …` it fails at `getActiveEndpoint` (block "return nil, err").
  * the manager model (NV.Model.Manager), compared with the real Manager by the `mgr` and `mgrc`
    correspondence areas (scripts with started-but-not-yet-run elections; concurrent soak).
-/
import NV.Gen.ManagerDo
import NV.Model.CFG
import NV.Gen.ManagerCFG
import NV.Lemmas.Manager
import NV.Gen.Manager
namespace NV.C09
open NV.CFG NV.Gen NV.Mgr

/-- every extracted (function, mutex/mode) projection (an entry of `ManagerCFG.all`: name, program, certificate,
entry state, strict) passes the certificate check.  A projection is entered in state `(0, 0)`; a `…Locked` function, in the projection of the mode its callers hold the
lock in, in `(1, 1)`: the caller's lock, held once with one release (the caller's) outstanding, so
that `held = deferred` at an exit reads "returns with the lock still held exactly once". -/
theorem mu_balanced :
    (ManagerCFG.all.all fun e => check e.2.2.2.2 e.2.1 e.2.2.1 e.2.2.2.1) = true := by decide +kernel

/-- the extraction is not vacuous: the projections exist and carry the events of the source
(Lock / Unlock / defer Unlock / calls of …Locked methods) -/
theorem mu_nonvacuous :
    ManagerCFG.all.length ≥ 30 ∧
    (ManagerCFG.Test_mW.any fun b => b.evs.contains .acq) = true ∧
    (ManagerCFG.Test_mW.any fun b => b.evs.contains .deferRel || b.evs.contains .rel) = true ∧
    (ManagerCFG.Test_mW.any fun b => b.evs.contains .need) = true ∧
    (ManagerCFG.testLocked_mW.any fun b => b.evs == [.rel, .acq]) = true ∧
    ManagerCFG.testLocked_mW_init = (1, 1) ∧ ManagerCFG.findBestEndpointLocked_mW_init = (1, 1) ∧
    ManagerCFG.getActiveEndpoint_mW_events ≥ 4 ∧ ManagerCFG.getActiveEndpoint_mR_events ≥ 2 ∧
    ManagerCFG.shouldTest_eW_events ≥ 2 ∧ ManagerCFG.shouldTest_eR_events ≥ 2 ∧ ManagerCFG.shouldTest_eA_events ≥ 6 ∧
    ManagerCFG.setTesting_eW_events ≥ 2 ∧ ManagerCFG.getActiveEndpoint_mW_init = (0, 0) := by decide +kernel

theorem entry_ok {name : String} {prog : Prog} {cert : Cert} {init : CFG.St} {strict : Bool}
    (he : (name, prog, cert, init, strict) ∈ ManagerCFG.all) : check strict prog cert init = true :=
  List.all_eq_true.1 mu_balanced _ he

/-- **every path of every manager function is lock-balanced**: at each exit (return, panic, end of
function) of each function, on EVERY path (any number of loop iterations), what was locked on the
way has been unlocked or is unlocked by an installed `defer`; a `…Locked` function returns holding
exactly the lock it was entered with. -/
theorem mu_every_path_balanced (e : String × Prog × Cert × CFG.St × Bool) (he : e ∈ ManagerCFG.all)
    (i : Nat) (s : CFG.St) (b : Block) (hr : Reach e.2.1 e.2.2.2.1 i s) (hb : e.2.1[i]? = some b)
    (hexit : b.succs = []) : (runEvs b.evs s).1 = (runEvs b.evs s).2 :=
  exit_balanced _ _ _ _ (entry_ok he) i s b hr hb hexit

/-- **…Locked callees are only reached with the lock held, and nothing unlocks what it does not
hold**: at every program point of every path. -/
theorem mu_point_ok (e : String × Prog × Cert × CFG.St × Bool) (he : e ∈ ManagerCFG.all)
    (i : Nat) (s : CFG.St) (b : Block) (pre post : List CFG.Ev) (ev : CFG.Ev)
    (hr : Reach e.2.1 e.2.2.2.1 i s) (hb : e.2.1[i]? = some b) (hsplit : b.evs = pre ++ ev :: post) :
    ev.okAfter e.2.2.2.2 (runEvs pre s) = true :=
  point_ok _ _ _ _ (entry_ok he) i s b hr hb pre ev post hsplit

/-- inside `findBestEndpointLocked` — the whole election — and `newActiveEndpointLocked` the certificate
has the write lock `m.mu` held at the entry of every block (a fact of the table `mu_balanced` checks;
its step to every reachable state, `cert_sound`, is not drawn) -/
theorem election_holds_mu :
    (ManagerCFG.findBestEndpointLocked_mW_cert.all fun c => c.1 == 1) = true ∧
    (ManagerCFG.newActiveEndpointLocked_mW_cert.all fun c => c.1 == 1) = true := by decide +kernel

/-- the two comparisons that start elections (`testTimeExceededLocked`, the threshold test of `do`) and the
default threshold, re-translated from the source on every run, are the model's -/
theorem gen_triggers_agree :
    (∀ now last iv, Gen.Manager.exceeded now last iv = exceeded now last iv) ∧
    (∀ now last iv, Gen.Manager.exceededWall now last iv = exceeded now last iv) ∧
    (∀ n t, Gen.Manager.thresholdHit n t = thresholdHit n t) ∧
    Gen.Manager.defaultErrorThreshold = defaultThreshold :=
  ⟨fun _ _ _ => rfl, fun _ _ _ => rfl, fun _ _ => rfl, rfl⟩

open NV.CFG NV.Gen in
/-- **C09 / C03 (regenerated)**: the control-flow graph of `(*activeEnpoint).do`, three projections: every `return` comes
after the action was tried on the endpoint (no path answers for an endpoint without asking it); every path on which the
action FAILED passes `atomic.AddUint32(&e.consecutiveErrors, 1)` before it leaves — whatever else is true of the query, its
context included — so `threshold_starts_election` speaks about every failed exchange; every path on which it succeeded
clears the count. The extraction saw the call, the increment and the reset. -/
theorem gen_do_shape_ok :
    check ManagerDo.doAction_strict ManagerDo.doAction ManagerDo.doAction_cert ManagerDo.doAction_init = true ∧
    check ManagerDo.doCount_strict ManagerDo.doCount ManagerDo.doCount_cert ManagerDo.doCount_init = true ∧
    check ManagerDo.doReset_strict ManagerDo.doReset ManagerDo.doReset_cert ManagerDo.doReset_init = true ∧
    ManagerDo.doAction_init = (0, 0) ∧ ManagerDo.doCount_init = (0, 0) ∧ ManagerDo.doReset_init = (0, 0) ∧
    ManagerDo.actionCalls = 1 ∧ ManagerDo.addCalls = 1 ∧ ManagerDo.storeCalls = 1 ∧
    (ManagerDo.doAction.any fun b => b.evs == [.acq]) = true ∧
    (ManagerDo.doCount.any fun b => b.evs == [.acq]) = true ∧ (ManagerDo.doCount.any fun b => b.evs == [.rel]) = true ∧
    (ManagerDo.doReset.any fun b => b.evs == [.acq]) = true ∧ (ManagerDo.doReset.any fun b => b.evs == [.rel]) = true := by
  decide +kernel

/-- **never stuck**: in every state reachable from the initial one by ANY operation list (any
provider / probe / query error, with or without InitEndpoint), every operation is enabled and
returns — no error path leaves `m.mu` locked. -/
theorem never_stuck (cfg : Cfg) (ops : List Op) (r : Mgr.St × List Mgr.Ev)
    (hr : run repaired cfg St.init ops = some r) (op : Op) :
    (step repaired cfg r.1 op).isSome = true :=
  step_free repaired cfg op (Inv_reach hr).mu ▸ rfl

/-- every operation list meets `hr` of `never_stuck` -/
theorem run_total (cfg : Cfg) (ops : List Op) : (run repaired cfg St.init ops).isSome = true :=
  let ⟨_, h, _⟩ := Inv_run cfg ops
  h ▸ rfl

/-- the pre-repair code (`⟨false, true⟩`: `unlockOnBootErr` off; DESIGN §6, repaired by 4d4db4d): a bootstrap election
that ends with network-unreachable leaves `m.mu` locked; the next Do never returns, although the network has healed -/
theorem prerepair_stuck :
    run ⟨false, true⟩ ⟨0, 0, fun _ => 0, none⟩ St.init
      [.doStart ⟨[.unreach], fun _ => .ok⟩, .doStart ⟨[.ok [⟨1, 0⟩]], fun _ => .ok⟩] = none := rfl

/-- the same script on the repaired code: the second Do is served -/
theorem repaired_not_stuck :
    ∃ r, run repaired ⟨0, 0, fun _ => 0, none⟩ St.init
      [.doStart ⟨[.unreach], fun _ => .ok⟩, .doStart ⟨[.ok [⟨1, 0⟩]], fun _ => .ok⟩] = some r ∧
      actions r.2 = [.action (some ⟨1, 0⟩)] := ⟨_, rfl, rfl⟩

/-- **single flight**: in every reachable state an object has at most one started election, and
it has one exactly while its `testing` flag is set. -/
theorem single_flight (cfg : Cfg) (ops : List Op) (r : Mgr.St × List Mgr.Ev)
    (hr : run repaired cfg St.init ops = some r) :
    r.1.pending.Nodup ∧ ∀ a, a ∈ r.1.pending ↔ (r.1.heap a).testing = true :=
  ⟨(Inv_reach hr).t.nodup, (Inv_reach hr).t.pend⟩

/-- **the error threshold starts an election**: the failed query that brings the consecutive-error
count of its object to exactly the threshold starts one background election for that object unless
one is already started; any other query result starts none. A success resets the count. -/
theorem threshold_starts_election (cfg : Cfg) (st : Mgr.St) (j a : Nat) (hj : st.inflight[j]? = some a) :
    ((st.heap a).errs + 1 = thr cfg → (st.heap a).testing = false →
        (doFinish cfg st j false).pending = st.pending ++ [a] ∧
        ((doFinish cfg st j false).heap a).testing = true) ∧
    ((st.heap a).errs + 1 ≠ thr cfg ∨ (st.heap a).testing = true →
        (doFinish cfg st j false).pending = st.pending ∧
        ((doFinish cfg st j false).heap a).testing = (st.heap a).testing) ∧
    ((doFinish cfg st j false).heap a).errs = (st.heap a).errs + 1 ∧
    ((doFinish cfg st j true).heap a).errs = 0 ∧ (doFinish cfg st j true).pending = st.pending := by
  rw [doFinish_eq cfg st hj, doFinish_eq cfg st hj]
  -- the first branch of `doFinish_eq` is a failure under `h1` and `h2`; everything else takes the second
  refine ⟨fun h1 h2 => ?_, fun h => ?_, ?_, ?_, ?_⟩
  · rw [if_pos ⟨rfl, h1, h2⟩]; exact ⟨rfl, by simp only [upd_same]⟩
  · rw [if_neg fun hc => h.elim (· hc.2.1) fun ht => Bool.noConfusion (ht.symm.trans hc.2.2)]
    exact ⟨rfl, by simp only [upd_same]⟩
  · split <;> simp only [upd_same, Bool.false_eq_true, if_false]
  · rw [if_neg fun hc => Bool.noConfusion hc.1]; simp only [upd_same, if_true]
  · rw [if_neg fun hc => Bool.noConfusion hc.1]

/-- **failover**: an election is started, the active endpoint's probe fails and `y` is the first
candidate, in preference order, whose probe passes (nothing network-unreachable before it).  When
the election runs it installs `y`, calls OnChange(y), and a Do that follows is executed on `y`. -/
theorem failover (cfg : Cfg) (st : Mgr.St) (env : Env) (a x : Nat) (rest : List Nat) (y : Ep)
    (pre post : List Item)
    (hmu : st.muHeld = false) (hp : st.pending = a :: rest) (hact : st.active = some x)
    (hitems : items env = pre ++ .cand y :: post) (hpre : ∀ i ∈ pre, stopOf env.health i = none)
    (hy : env.health y.key = .ok)
    (hx : ∀ e, (st.heap x).ep = some e → env.health e.key = .err) :
    ∃ st' evs, electionRun repaired cfg st env = some (st', evs) ∧
      st'.active = some st.next ∧ (st'.heap st.next).ep = some y ∧
      changes evs = [.onChange (some y)] ∧ st'.pending = rest ∧
      ∀ env', ∃ r, doStart repaired cfg st' env' = some r ∧ actions r.2 = [.action (some y)] := by
  have hne : equalOpt (st.heap x).ep (some y) = false := Bool.eq_false_iff.2 fun h => by
    obtain ⟨e, hep, hk⟩ := equalOpt_some_iff.1 h
    have := hx e hep
    rw [hk, hy] at this; cases this
  obtain ⟨st', evs, hrun, hnew, hep, hch, hpend, _, hmu'⟩ :=
    election_installs cfg st env a x rest y hmu hp hact hitems hpre hy hne
  refine ⟨st', evs, hrun, hnew, hep, hch, hpend, fun env' => ⟨_, doStart_active repaired cfg st' env' st.next hmu' hnew, ?_⟩⟩
  rw [enterDo_events, hep]; rfl

/-- **recovery**: the active object `a` is not being tested and its test interval has elapsed.
The next Do starts exactly one election for it (a second Do does not start another: single
winner), is itself still executed on the current endpoint, and — `p` being the first candidate
whose probe passes, not `Equal` to the current endpoint — when the election runs `p` becomes
active with OnChange(p), and the object's `testing` flag is cleared. -/
theorem recovery (cfg : Cfg) (st : Mgr.St) (env0 env : Env) (a : Nat) (p : Ep) (pre post : List Item)
    (hmu : st.muHeld = false) (hact : st.active = some a) (hpend : st.pending = [])
    (ht : (st.heap a).testing = false)
    (hx : exceeded st.clock (st.heap a).lastTest (st.heap a).interval = true)
    (hitems : items env = pre ++ .cand p :: post) (hpre : ∀ i ∈ pre, stopOf env.health i = none)
    (hp : env.health p.key = .ok) (hne : equalOpt (st.heap a).ep (some p) = false) :
    ∃ st1 evs1, doStart repaired cfg st env0 = some (st1, evs1) ∧
      st1.pending = [a] ∧ actions evs1 = [.action (st.heap a).ep] ∧
      (∃ st2 evs2, doStart repaired cfg st1 env0 = some (st2, evs2) ∧ st2.pending = [a]) ∧
      ∃ st3 evs3, electionRun repaired cfg st1 env = some (st3, evs3) ∧
        st3.active = some st.next ∧ (st3.heap st.next).ep = some p ∧
        changes evs3 = [.onChange (some p)] ∧ st3.pending = [] ∧ (st3.heap a).testing = false := by
  obtain ⟨s1, s2, _⟩ := enterDo_spawn st a [] ht hx
  have hp1 : (enterDo st a []).1.pending = [a] := by rw [s1, hpend]; rfl
  have hmu1 : (enterDo st a []).1.muHeld = false := (enterDo_muHeld ..).trans hmu
  have hact1 : (enterDo st a []).1.active = some a := (enterDo_active ..).trans hact
  refine ⟨_, _, doStart_active repaired cfg st env0 a hmu hact, hp1, congrArg actions (enterDo_events st a []), ?_, ?_⟩
  · exact ⟨_, _, doStart_active repaired cfg _ env0 a hmu1 hact1,
      ((enterDo_nospawn (enterDo st a []).1 a [] (Or.inl s2)).1).trans hp1⟩
  · have h := election_installs cfg (enterDo st a []).1 env a a [] p hmu1 hp1 hact1 hitems hpre hp
      ((congrArg (equalOpt · _) (enterDo_ep ..)).trans hne)
    rw [enterDo_next] at h
    obtain ⟨st3, evs3, hrun, hnew, hep, hch, hpend, htest, _⟩ := h
    exact ⟨st3, evs3, hrun, hnew, hep, hch, hpend, htest⟩

/-- `failover` applies to a concrete reachable state -/
example :
    let cfg : Cfg := ⟨1, 0, fun _ => 0, none⟩
    let env1 : Env := ⟨[.ok [⟨1, 0⟩, ⟨2, 0⟩]], fun _ => .ok⟩
    let env2 : Env := ⟨[.ok [⟨1, 0⟩, ⟨2, 0⟩]], fun k => if k = 1 then .err else .ok⟩
    ∃ r, run repaired cfg St.init [.doStart env1, .doFinish 0 false] = some r ∧
      r.1.muHeld = false ∧ r.1.pending = [0] ∧ r.1.active = some 0 ∧
      items env2 = [.pok 0, .cand ⟨1, 0⟩] ++ .cand ⟨2, 0⟩ :: [] ∧
      (∀ i ∈ [Item.pok 0, .cand ⟨1, 0⟩], stopOf env2.health i = none) ∧
      (∀ e, (r.1.heap 0).ep = some e → env2.health e.key = .err) := by
  refine ⟨_, rfl, rfl, rfl, rfl, rfl, by decide, ?_⟩
  intro e (he : some (⟨1, 0⟩ : Ep) = some e)
  cases he; rfl

/-- `recovery` applies: active endpoint 2 (elected while 1 was down), interval elapsed, 1 healthy again -/
example :
    let cfg : Cfg := ⟨0, 0, fun _ => 0, none⟩
    let env1 : Env := ⟨[.ok [⟨1, 0⟩, ⟨2, 0⟩]], fun k => if k = 1 then .err else .ok⟩
    let env2 : Env := ⟨[.ok [⟨1, 0⟩, ⟨2, 0⟩]], fun _ => .ok⟩
    ∃ r, run repaired cfg St.init [.doStart env1, .doFinish 0 true, .advance 7201] = some r ∧
      r.1.muHeld = false ∧ r.1.active = some 0 ∧ r.1.pending = [] ∧ (r.1.heap 0).testing = false ∧
      exceeded r.1.clock (r.1.heap 0).lastTest (r.1.heap 0).interval = true ∧
      items env2 = [.pok 0] ++ .cand ⟨1, 0⟩ :: [.cand ⟨2, 0⟩] ∧
      equalOpt (r.1.heap 0).ep (some ⟨1, 0⟩) = false := by
  refine ⟨_, rfl, rfl, rfl, rfl, rfl, by decide, rfl, by decide⟩

end NV.C09
