/-
  NV.Props.C19 — system DNS activation is reversible and crash-safe.

  Model: NV.Model.FS (host/dns_resolvconf.go, host/dns_linux.go).  A history is a list of events
  `act dns crash? | deact crash? | env ext'`; every event runs the real sequence of system calls from the
  state it finds, cut at an arbitrary crash point.  The theorems quantify over ALL byte contents, symlink
  texts, histories and crash points, and over all proxy addresses, except that reading the file back (`activated_shape`)
  asks for an address of printable ASCII (`ValidDns`).  The last part (NV.Model.Activate, activate.go) says which address
  `activate` hands over, and that it is such an address (`activate_addr_valid`).

  The model carries the code as found and the repaired code (`Variant`).  The two defects of the former, both
  found by this check, are witnessed by `found_keeps_tab_nameserver` and `found_loses_original`; the theorems hold for
  every variant with the repaired decisions, and `gen_variant_agree` proves that this is what the source says now.
-/
import NV.Model.FS
import NV.Lemmas.FS
import NV.Gen.Resolv
import NV.Driver.FS
import NV.Model.Activate
import NV.Lemmas.Activate
import NV.Gen.Activate
namespace NV.C19
open NV.FS

/-- the source has os.Lstat and the first-field nameserver test — the variant the driver runs and the
    theorems are instantiated with -/
theorem gen_variant_agree : Gen.Resolv.variant = Variant.cur := by decide

/-- the header lines and the final format written by writeTempResolvConf are the model's; the scan loop
    copies `line` -/
theorem gen_render_agree :
    Gen.Resolv.header = header ∧ Gen.Resolv.nsFormat = nsLine (asc "%s") ++ [10] ∧ Gen.Resolv.loopWritesLine = true :=
  -- both headers are lists of `asc "…"` of the same literals: `rfl` compares them without decoding the strings
  ⟨rfl, by decide +kernel, rfl⟩

/-- three distinct names in one directory (rename stays on one file system), renamed in the modelled
    order: live→backup before staging→live; ResetDNS backup→live -/
theorem gen_names_agree :
    Gen.Resolv.names = ["/etc/resolv.conf", "/etc/resolv.conf.nextdns-bak", "/etc/resolv.conf.nextdns-tmp"] ∧
    Gen.Resolv.setupRenames = [("resolvFile", "resolvBackupFile"), ("resolvTmpFile", "resolvFile")] ∧
    Gen.Resolv.resetRenames = [("resolvBackupFile", "resolvFile")] := by
  decide +kernel

/-- the original resolv.conf node (file bytes or symlink text) is the live file with no backup, or it is
    the backup -/
def Inv (orig : Node) (s : FS) : Prop :=
  (s.bak = .absent ∧ s.live = orig) ∨ (s.bak = orig ∧ orig ≠ .absent)

instance (orig : Node) (s : FS) : Decidable (Inv orig s) := by unfold Inv; infer_instance

/-- a pristine system: resolv.conf is `orig`, no backup, anything (stale) under the staging name -/
def pristine (orig tmp : Node) (ext : List (Bytes × Bytes)) : FS := ⟨orig, .absent, tmp, ext⟩

theorem inv_act_prefix (v : Variant) (hv : v.lstat = true) (orig : Node) (s : FS) (dns : Bytes)
    (pre : List Prim) (hp : pre <+: (setup v s dns).1) (h : Inv orig s) : Inv orig (applyAll s pre) := by
  cases hr : readThrough s s.live with
  | none => rw [setup_unreadable v s dns hr hp]; exact h
  | some content =>
    have hl := ne_absent_of_readThrough hr
    -- with Lstat (`hv`) the node the renames leave as the backup — the backup if there was one, else the live file —
    -- is the original; os.Stat takes a dangling backup link for none (`found_loses_original`)
    have hbak : (if bakExists v s then s.bak else s.live) = orig ∧ orig ≠ .absent := by
      simp only [bakExists, hv, if_true]
      rcases h with ⟨h1, h2⟩ | ⟨h1, h2⟩
      · simpa [h1, h2] using h2 ▸ hl
      · simp [h1, h2]
    rcases setup_prefix v s dns content hr pre hp with ⟨h1, h2⟩ | ⟨hb, _, h2⟩ | ⟨_, h2⟩
    · unfold Inv; rw [h1, h2]; exact h
    · rw [hb] at hbak; exact .inr (h2 ▸ hbak)
    · exact .inr (h2 ▸ hbak)

/-- From any state satisfying the invariant a completed ResetDNS leaves the
    original as the live node (bytes or symlink text, byte for byte) and no backup. -/
theorem deactivate_restores (orig : Node) (s : FS) (h : Inv orig s) :
    (applyAll s (reset s).1).live = orig ∧ (applyAll s (reset s).1).bak = .absent := by
  simp only [reset, applyAll, List.foldl_cons, List.foldl_nil]
  rcases h with ⟨hb, hl⟩ | ⟨hb, hne⟩
  · -- no backup: rename fails with ENOENT and nothing changes
    have e : apply s (.rename .bak .live) = s := by simp [apply, FS.get, hb]
    rw [e]; exact ⟨hl, hb⟩
  · rw [apply_rename _ _ _ (by simpa [FS.get, hb] using hne)]
    exact ⟨hb, rfl⟩

theorem inv_deact_prefix (orig : Node) (s : FS) (pre : List Prim) (hp : pre <+: (reset s).1)
    (h : Inv orig s) : Inv orig (applyAll s pre) := by
  rcases prefix_one hp with rfl | rfl
  · exact h
  · exact .inl ⟨(deactivate_restores orig s h).2, (deactivate_restores orig s h).1⟩

theorem inv_step (v : Variant) (hv : v.lstat = true) (orig : Node) (s : FS) (ev : Ev) (h : Inv orig s) :
    Inv orig (stepEv v s ev) := by
  cases ev with
  | act dns c => exact inv_act_prefix v hv orig s dns _ (cut_prefix _ c) h
  | deact c => exact inv_deact_prefix orig s _ (cut_prefix _ c) h
  | env e => exact h

theorem inv_run (v : Variant) (hv : v.lstat = true) (orig : Node) (evs : List Ev) :
    ∀ s, Inv orig s → Inv orig (run v s evs) :=
  fun _ h => List.foldlRecOn evs (stepEv v) h fun s h ev _ => inv_step v hv orig s ev h

/-- `Inv` holds after every history of activations, deactivations and environment changes — each cut at any crash
    point, i.e. after every prefix of every sequence — started from a pristine system. -/
theorem inv (orig tmp : Node) (ext : List (Bytes × Bytes)) (evs : List Ev) :
    Inv orig (run Variant.cur (pristine orig tmp ext) evs) :=
  inv_run Variant.cur rfl orig evs _ (.inl ⟨rfl, rfl⟩)

theorem deactivate_restores_after_any_history (orig tmp : Node) (ext : List (Bytes × Bytes)) (evs : List Ev) :
    (run Variant.cur (pristine orig tmp ext) (evs ++ [.deact none])).live = orig ∧
    (run Variant.cur (pristine orig tmp ext) (evs ++ [.deact none])).bak = .absent := by
  -- the last event, an uncut `deact`, applies `reset`'s calls to the state `evs` leaves
  rw [run, List.foldl_append]
  exact deactivate_restores orig _ (inv orig tmp ext evs)

/-- the code as found loses the original: orig is a symlink, activate, the link target vanishes,
    activate again ⇒ the backup is the nextdns-managed file -/
theorem found_loses_original :
    ∃ orig ext evs, ¬ Inv orig (run Variant.found (pristine orig .absent ext) evs) :=
  ⟨.symlink (asc "stub"), [(asc "stub", [])],
   [.act (asc "::1") none, .env [], .act (asc "::1") none], by decide +kernel⟩

/-- the symlink content and every other file are never written: `ext` only changes by `env` events -/
theorem ext_untouched (v : Variant) (s : FS) (ev : Ev) (h : ∀ e, ev ≠ .env e) : (stepEv v s ev).ext = s.ext := by
  cases ev with
  | act dns c => exact applyAll_ext _ _
  | deact c => exact applyAll_ext _ _
  | env e => exact absurd rfl (h e)

/-- At every crash point of an activation the live name holds what it held before,
    or nothing (between the two renames of a first activation), or the COMPLETE rendering: a partially
    written staging file is never renamed over resolv.conf (whatever stale staging file existed). -/
theorem tmp_never_live (v : Variant) (s : FS) (dns content : Bytes) (hr : readThrough s s.live = some content)
    (pre : List Prim) (hp : pre <+: (setup v s dns).1) :
    (applyAll s pre).live = s.live ∨ (applyAll s pre).live = .absent ∨
      (applyAll s pre).live = .file (render v content dns) := by
  rcases setup_prefix v s dns content hr pre hp with h | h | h
  · exact .inl h.1
  · exact .inr (.inl h.2.1)
  · exact .inr (.inr h.1)

/-- OUTSIDE the property's quantifier (process death), recorded as an open finding: the Go code ignores
    the results of its writes, so when they fail (disk full) from the 5th on, `tmp_never_live`'s
    conclusion is false — a header-only staging file becomes resolv.conf and SetDNS reports success.
    (The original is still the backup: `inv` is not affected, deactivation recovers.) -/
theorem write_errors_go_live :
    let s := pristine (.file (asc "search lan\nnameserver 1.1.1.1\n")) .absent []
    let r := setup Variant.cur s (asc "::1")
    let s' := applyAll s (failWrites 5 r.1)
    r.2 = .ok ∧ s'.live ≠ s.live ∧ s'.live ≠ .absent ∧
      s'.live ≠ .file (render Variant.cur (asc "search lan\nnameserver 1.1.1.1\n") (asc "::1")) ∧
      s'.live = .file ((header.map (· ++ [10])).flatten) ∧ s'.bak = s.live := by
  decide +kernel

/-- an unreadable resolv.conf (absent, dangling link) fails before any change -/
theorem unreadable_is_noop (v : Variant) (s : FS) (dns : Bytes) (hr : readThrough s s.live = none)
    (c : Option Crash) : stepEv v s (.act dns c) = s :=
  setup_unreadable v s dns hr (cut_prefix _ c)

/-- the trimmed lines of a resolv.conf body, as the scanner and TrimSpace deliver them -/
def parsed (b : Bytes) : List Bytes := (rawLines b).map (fun l => trim (dropCR l))

/-- a (trimmed) line is a nameserver line: the keyword alone, or the keyword followed by a white-space
    rune (space, TAB, \v, \f, \r, NBSP, …) — a superset of what glibc (space/TAB), musl (isspace) and Go's
    resolver accept -/
def IsNameserverLine (t : Bytes) : Prop :=
  t = kwNameserver ∨ ∃ w ∈ wsSeqs, ∃ r, t = kwNameserver ++ w ++ r

/-- `keeps v` where `v.nsFields` holds (`hkeeps` in `activated_shape`) -/
def isDirective (t : Bytes) : Bool := !(t.isEmpty || t.head? == some 35 || isNsLine true t)

def directives (b : Bytes) : List Bytes := (parsed b).filter isDirective
/-- the addresses of the nameserver lines, in order (10 = `kwNameserver.length`) -/
def nameservers (b : Bytes) : List Bytes := ((parsed b).filter (isNsLine true)).map (fun t => trim (t.drop 10))

/-- what the proofs below need of the `asc "…"` literals: the header lines hold no newline and parse back to neither a
directive nor a nameserver line; the line written begins with the keyword, ten printable bytes, and a blank -/
structure HeaderInert : Prop where
  header_no_nl : ∀ l ∈ header, (10 : UInt8) ∉ l
  header_no_directive : (header.map fun l => trim (dropCR l)).filter isDirective = []
  header_no_nameserver : (header.map fun l => trim (dropCR l)).filter (isNsLine true) = []
  nsLine_prefix : asc "nameserver " = kwNameserver ++ [32]
  kw_length : kwNameserver.length = 10
  kw_printable : ∀ b ∈ kwNameserver, 33 ≤ b.toNat ∧ b.toNat ≤ 126

/-- ONE kernel evaluation for the six fields: decoding the literals is what costs, paid once.  The `_` are
filled in from the fields' types before `decide` runs. -/
theorem header_inert : HeaderInert :=
  have h : _ ∧ _ ∧ _ ∧ _ ∧ _ ∧ _ := by decide +kernel
  ⟨h.1, h.2.1, h.2.2.1, h.2.2.2.1, h.2.2.2.2.1, h.2.2.2.2.2⟩

theorem nsLine_eq (dns : Bytes) : nsLine dns = kwNameserver ++ [32] ++ dns := by
  rw [nsLine, header_inert.nsLine_prefix]

theorem isNsLine_iff (t : Bytes) : isNsLine true t = true ↔ IsNameserverLine t := by
  have hk := header_inert.kw_length
  simp only [isNsLine, IsNameserverLine, if_true, Bool.and_eq_true, Bool.or_eq_true, beq_iff_eq, startsWith_isSome]
  constructor
  · rintro ⟨h1, h2⟩
    obtain ⟨r, rfl⟩ : ∃ r, t = kwNameserver ++ r := ⟨t.drop 10, by rw [← h1, List.take_append_drop]⟩
    rw [List.length_append, hk, List.drop_left' hk] at h2
    rcases h2 with h2 | ⟨w, hw, r', rfl⟩
    · exact .inl (by rw [List.length_eq_zero_iff.mp (Nat.add_eq_left.mp h2), List.append_nil])
    · exact .inr ⟨w, hw, r', (List.append_assoc _ _ _).symm⟩
  · rintro (rfl | ⟨w, hw, r, rfl⟩)
    · exact ⟨by rw [← hk, List.take_length], .inl hk⟩
    · rw [List.append_assoc, List.take_left' hk, List.drop_left' hk]
      exact ⟨rfl, .inr ⟨w, hw, List.prefix_append w r⟩⟩

/-- what the stub resolvers call a nameserver line is one -/
theorem resolver_view_covered (c : UInt8) (r : Bytes) (hc : c = 32 ∨ c = 9 ∨ c = 11 ∨ c = 12 ∨ c = 13) :
    IsNameserverLine (kwNameserver ++ [c] ++ r) := by
  have h : ∀ x ∈ [32, 9, 11, 12, 13], [x] ∈ wsSeqs := by decide
  exact .inr ⟨[c], h c (by simpa using hc), r, rfl⟩

/-- proxy addresses are non-empty printable ASCII without blanks (activate.go passes "127.0.0.1", "::1",
    a string accepted by net.ParseIP or an address of the hosts file: `activate_addr_valid`) -/
def ValidDns (dns : Bytes) : Prop := dns ≠ [] ∧ ∀ d ∈ dns, 33 ≤ d.toNat ∧ d.toNat ≤ 126

instance (dns : Bytes) : Decidable (ValidDns dns) := by unfold ValidDns; infer_instance

/-- the new resolv.conf read back: the header lines (trimmed), the lines kept, the nameserver line -/
theorem parsed_render (v : Variant) (content dns : Bytes) (hvd : ValidDns dns) :
    parsed (render v content dns) = header.map (fun l => trim (dropCR l)) ++ kept v content ++ [nsLine dns] := by
  have hkp := header_inert.kw_printable
  have hkne : kwNameserver ≠ [] := List.ne_nil_of_length_pos (header_inert.kw_length ▸ Nat.succ_pos 9)
  -- the line written begins with the keyword and ends with the address: no white space at either end
  have hns : Clean (nsLine dns) := by
    refine clean_of_plain_ends (fun a ha => ?_) (fun b hb => ?_)
    · rw [nsLine_eq, List.append_assoc, List.head?_append, List.head?_eq_some_head hkne, Option.some_or] at ha
      exact Option.some.inj ha ▸ hkp _ (List.head_mem hkne)
    · rw [nsLine, List.getLast?_append, List.getLast?_eq_some_getLast hvd.1, Option.some_or] at hb
      exact Option.some.inj hb ▸ hvd.2 _ (List.getLast_mem hvd.1)
  have hnoNL : ∀ l ∈ header ++ kept v content ++ [nsLine dns], (10 : UInt8) ∉ l := by
    intro l hl h10
    simp only [List.mem_append, List.mem_singleton] at hl
    rcases hl with (hl | hl) | rfl
    · exact header_inert.header_no_nl l hl h10
    · exact (kept_clean v content l hl).2 h10
    · -- the line written: the keyword, a blank, the address; 10 is none of their bytes
      rw [nsLine_eq] at h10
      simp only [List.mem_append, List.mem_singleton] at h10
      rcases h10 with (h | h) | h
      · exact absurd (hkp _ h).1 (by decide)
      · exact absurd h (by decide)
      · exact absurd (hvd.2 _ h).1 (by decide)
  -- of the three parts, `trim ∘ dropCR` can change the header only
  have hkeptId : (kept v content).map (fun l => trim (dropCR l)) = kept v content :=
    (List.map_congr_left (g := id) fun t ht => (kept_clean v content t ht).1.trim_dropCR).trans (List.map_id _)
  -- the rendering is the lines with a newline after each, and none of them holds one: `rawLines` gives them back
  rw [parsed, render_eq, rawLines_flatten _ hnoNL, List.map_append, List.map_append, hkeptId, List.map_singleton,
    hns.trim_dropCR]

/-- the header holds no nameserver line: the `decide` witnesses go through this and do not decode its literals again -/
theorem nameservers_render (v : Variant) (content dns : Bytes) (hvd : ValidDns dns) :
    nameservers (render v content dns) =
      ((kept v content ++ [nsLine dns]).filter (isNsLine true)).map fun t => trim (t.drop 10) := by
  rw [nameservers, parsed_render v content dns hvd, List.append_assoc, List.filter_append,
    header_inert.header_no_nameserver, List.nil_append]

/-- After a completed activation (no scanner error) the new resolv.conf, parsed
    back from its bytes, has exactly one nameserver line, naming the proxy, and exactly the non-comment,
    non-nameserver directives of the file that was read, in order (each trimmed). -/
theorem activated_shape (v : Variant) (hv : v.nsFields = true) (content dns : Bytes)
    (hs : (scan content).2 = false) (hvd : ValidDns dns) :
    nameservers (render v content dns) = [dns] ∧
    directives (render v content dns) = directives content := by
  have hkeeps : keeps v = isDirective := by funext t; simp [keeps, isDirective, hv]
  have hkept : kept v content = directives content := by
    rw [kept, scan_ok hs, hkeeps, List.map_map]; rfl
  have hnsLine : isNsLine true (nsLine dns) = true :=
    (isNsLine_iff _).mpr (.inr ⟨[32], by decide, dns, nsLine_eq dns⟩)
  have hDN : (directives content).filter (isNsLine true) = [] := by
    refine List.filter_eq_nil_iff.mpr fun t ht => ?_
    have := (List.mem_filter.mp ht).2
    simp only [isDirective, Bool.not_eq_true', Bool.or_eq_false_iff] at this
    simp [this.2]
  constructor
  · rw [nameservers_render v content dns hvd, hkept, List.filter_append, hDN, List.nil_append,
      List.filter_cons_of_pos hnsLine, List.filter_nil, List.map_singleton,
      nsLine_eq, List.append_assoc, List.drop_left' header_inert.kw_length]
    exact congrArg (· :: []) (trim_space_cons (clean_plain dns hvd.2))
  · rw [directives, parsed_render v content dns hvd, hkept, List.filter_append, List.filter_append,
      header_inert.header_no_directive, List.nil_append,
      List.filter_cons_of_neg (by simp [isDirective, hnsLine]), List.filter_nil, List.append_nil]
    exact List.filter_eq_self.mpr fun t ht => (List.mem_filter.mp ht).2

/-- the code as found kept `nameserver<TAB>1.2.3.4`: two nameservers after activation -/
theorem found_keeps_tab_nameserver :
    nameservers (render Variant.found (asc "nameserver\t1.2.3.4\n") (asc "::1")) = [asc "1.2.3.4", asc "::1"] := by
  rw [nameservers_render _ _ _ (by decide +kernel)]
  decide +kernel

example : ValidDns (asc "127.0.0.1") ∧ ValidDns (asc "fd00::53") := by decide +kernel
example : (scan (asc "search lan\r\nnameserver\t1.1.1.1\n  options ndots:2 ")).2 = false := by decide +kernel
example : directives (asc "# c\nsearch lan\r\nnameserver\t1.1.1.1\n  options ndots:2 ") =
    [asc "search lan", asc "options ndots:2"] := by decide +kernel
example : nameservers (render Variant.cur (asc "search lan\nnameserver\t1.1.1.1\n") (asc "::1")) = [asc "::1"] := by
  rw [nameservers_render _ _ _ (by decide +kernel)]
  decide +kernel
/-- Inv is not trivially true: it fails where resolv.conf and the backup are both regular files and the original was a
    symlink — the kind of state the code as found reaches in `found_loses_original` -/
example : ¬ Inv (.symlink [1]) ⟨.file [], .file [], .absent, []⟩ := by decide
/-- a first activation killed between its two renames: no live file, the original is the backup -/
example : (stepEv Variant.cur (pristine (.file (asc "nameserver 1.1.1.1\n")) .absent []) (.act (asc "::1") (some ⟨.rename, 2⟩))).live = .absent ∧
    (stepEv Variant.cur (pristine (.file (asc "nameserver 1.1.1.1\n")) .absent []) (.act (asc "::1") (some ⟨.rename, 2⟩))).bak
      = .file (asc "nameserver 1.1.1.1\n") := by decide +kernel
/-- in that window a new activation fails without touching anything (resolv.conf cannot be opened);
    only `deactivate` recovers — see `unreadable_is_noop` and `deactivate_restores` -/
example : (setup Variant.cur ⟨.absent, .file [1], .absent, []⟩ []).2 = .errOpen := by decide

/-- `resetNM` (Driver/FS) is `ResetDNS` where NetworkManager's conf.d exists and `systemctl reload` fails. Like
dns_linux.go it deals with resolv.conf first, so by construction its files are those of plain `ResetDNS` (only the
returned status and the drop-in differ), and `deactivate_restores` applies to them. -/
theorem deactivate_independent_of_networkmanager (s : FS) (nm : Bool) :
    (NV.resetNM s nm).1 = applyAll s (reset s).1 := by
  -- the match in `resetNM` reduces once `s.bak` is known
  obtain ⟨live, bak, tmp, ext⟩ := s
  cases bak <;> rfl

/-- likewise `setupNM` and plain `SetDNS` -/
theorem activate_independent_of_networkmanager (s : FS) (dns : Bytes) (nm : Bool) :
    (NV.setupNM s dns nm).1 = applyAll s (setup Variant.cur s dns).1 := by
  unfold NV.setupNM
  cases setup Variant.cur s dns with
  | mk ps st => cases st <;> rfl

section Activate
open NV.Activate

/-- a listen value with any port other than 53 / "domain" never activates: `listenIP` answers `errPort` -/
theorem non53_never_activates (lookup : S → List S) (listen host port : S)
    (hs : splitHostPort listen = some (host, port)) (h1 : port ≠ port53) (h2 : port ≠ portDomain) :
    listenIP lookup listen = .errPort := by
  rw [listenIP, hs]
  exact if_pos ⟨h1, h2⟩

/-- **every outcome of `listenIP`**: a loopback address, the host as written when it is an IP literal, the first
address the hosts file lists for the name — or one of its two errors. -/
theorem listenIP_cases (lookup : S → List S) (listen : S) :
    listenIP lookup listen = .addr loopback4 ∨ listenIP lookup listen = .addr loopback6 ∨
    listenIP lookup listen = .errPort ∨ listenIP lookup listen = .errNoAddr ∨
    ∃ host port, splitHostPort listen = some (host, port) ∧ (port = port53 ∨ port = portDomain) ∧
      ((parseIP host = true ∧ listenIP lookup listen = .addr host) ∨
       (parseIP host = false ∧ ∃ a rest, lookup host = a :: rest ∧ listenIP lookup listen = .addr a)) := by
  rcases hs : splitHostPort listen with _ | ⟨host, port⟩
  · exact .inl (listenIP_of_split_none lookup hs)
  by_cases hport : port ≠ port53 ∧ port ≠ portDomain
  · exact .inr (.inr (.inl (non53_never_activates lookup listen host port hs hport.1 hport.2)))
  have hp : port = port53 ∨ port = portDomain := Decidable.or_iff_not_not_and_not.mpr hport
  rw [listenIP_split lookup hs hp]
  by_cases hw : host = [] ∨ host = wild4
  · exact .inl (if_pos hw)
  rw [if_neg hw]
  by_cases h6 : host = wild6
  · exact .inr (.inl (if_pos h6))
  rw [if_neg h6]
  cases hip : parseIP host with
  | true => exact .inr (.inr (.inr (.inr ⟨host, port, rfl, hp, .inl ⟨hip, rfl⟩⟩)))
  | false =>
    cases hl : lookup host with
    | nil => exact .inr (.inr (.inr (.inl rfl)))
    | cons a rest => exact .inr (.inr (.inr (.inr ⟨host, port, rfl, hp, .inr ⟨hip, a, rest, hl, rfl⟩⟩)))

/-- a wildcard listen address activates the loopback address of its family; a value without a port activates 127.0.0.1 -/
theorem wildcards_to_loopback (lookup : S → List S) :
    listenIP lookup (':' :: port53) = .addr loopback4 ∧ listenIP lookup (wild4 ++ ':' :: port53) = .addr loopback4 ∧
    listenIP lookup ('[' :: (wild6 ++ ']' :: ':' :: port53)) = .addr loopback6 ∧
    listenIP lookup (wild4 ++ ':' :: portDomain) = .addr loopback4 ∧
    listenIP lookup ['l', 'o', 'c', 'a', 'l', 'h', 'o', 's', 't'] = .addr loopback4 := by
  refine ⟨?_, ?_, ?_, ?_, ?_⟩
  · rw [listenIP_split lookup (host := []) (port := port53) (by decide) (.inl rfl)]; rfl
  · rw [listenIP_split lookup (host := wild4) (port := port53) (by decide) (.inl rfl)]; rfl
  · rw [listenIP_split lookup (host := wild6) (port := port53) (by decide) (.inl rfl)]; rfl
  · rw [listenIP_split lookup (host := wild4) (port := portDomain) (by decide) (.inr rfl)]; rfl
  · exact listenIP_of_split_none lookup (by decide)

/-- **the proxy's own address is the one that is named**: an IPv4 literal (or any IP literal without ':') other than the
wildcard 0.0.0.0 (`hw`; that one activates 127.0.0.1, `wildcards_to_loopback`) listening on port 53 activates exactly
that address -/
theorem literal_address_kept (lookup : S → List S) (h : S) (hip : parseIP h = true)
    (hc : ∀ x ∈ h, x ≠ ':' ∧ x ≠ '[' ∧ x ≠ ']') (hw : h ≠ wild4) :
    listenIP lookup (h ++ ':' :: port53) = .addr h := by
  have hne : h ≠ [] := (parseIP_chars h hip).1
  have h6 : h ≠ wild6 := by
    intro he; subst he; exact absurd (hc ':' (by decide)).1 (by decide)
  simp [listenIP_split lookup (splitHostPort_join h port53 hc (by decide)) (.inl rfl), hne, hw, h6, hip]

example : listenIP (fun _ => []) "192.168.1.1:53".toList = .addr "192.168.1.1".toList ∧
    listenIP (fun _ => []) "[fd00::1]:53".toList = .addr "fd00::1".toList ∧
    listenIP (fun _ => []) "[::ffff:10.0.0.1]:domain".toList = .addr "::ffff:10.0.0.1".toList ∧
    listenIP (fun _ => []) "192.168.1.1:5353".toList = .errPort ∧
    listenIP (fun _ => []) "lan-a:53".toList = .errNoAddr ∧
    listenIP (fun n => if n = "lan-a".toList then ["10.0.0.9".toList, "fd00::9".toList] else []) "lan-a:53".toList
      = .addr "10.0.0.9".toList := by decide +kernel

/-- with the router integration on, the host's own resolver goes through dnsmasq on the loopback address, whatever the
first `-listen` value says (there has to be one) -/
theorem router_always_loopback (lookup : S → List S) (l : S) (ls : List S) :
    activate lookup (l :: ls) true = .addr loopback4 := by
  rw [activate, if_pos rfl, listenIP_split lookup (host := loopback4) (port := port53) (by decide) (.inl rfl)]
  rfl

/-- the bytes of an (ASCII) address text as `host.SetDNS` writes them; `toBytes s.toList = asc s` by `rfl` -/
def toBytes (s : S) : Bytes := s.map fun c => c.toNat.toUInt8

theorem validDns_of_parseIP (h : S) (hip : parseIP h = true) : ValidDns (toBytes h) := by
  obtain ⟨hne, hc⟩ := parseIP_chars h hip
  refine ⟨by simpa [toBytes] using hne, fun d hd => ?_⟩
  obtain ⟨c, hcm, rfl⟩ := List.mem_map.mp hd
  have hb := ipChar_printable c (hc c hcm)
  rw [Nat.toUInt8, UInt8.toNat_ofNat', Nat.mod_eq_of_lt (by omega)]
  exact hb

/-- **the address handed to `host.SetDNS` satisfies the hypothesis of `activated_shape`** (non-empty printable ASCII
without blanks), provided the hosts file's addresses do — they are `net.IP.String()` texts, followed by `%` and the zone
as the file writes it when it gives one (`parseLiteralIP`, discovery/hosts.go). -/
theorem activate_addr_valid (lookup : S → List S) (listens : List S) (sr : Bool) (a : S)
    (hl : ∀ h x, x ∈ lookup h → ValidDns (toBytes x)) (ha : activate lookup listens sr = .addr a) :
    ValidDns (toBytes a) := by
  unfold activate at ha
  cases listens with
  | nil => cases ha
  | cons l ls =>
    simp only at ha
    generalize (if sr = true then routerListen else l) = listen at ha
    rcases listenIP_cases lookup listen with h | h | h | h | ⟨host, port, _, _, h⟩
    · rw [h] at ha; cases ha; decide
    · rw [h] at ha; cases ha; decide
    · rw [h] at ha; cases ha
    · rw [h] at ha; cases ha
    · rcases h with ⟨hip, h⟩ | ⟨_, x, rest, hlk, h⟩
      · rw [h] at ha; cases ha; exact validDns_of_parseIP _ hip
      · rw [h] at ha; cases ha; exact hl host a (by simp [hlk])

open NV.Gen in
/-- **(regenerated)** the tables of `listenIP` and the shape of `activate` in activate.go are the literals the model was
written from (of its constants only `routerListen` occurs): ports 53 / domain, wildcard hosts, the fallback when
SplitHostPort fails, the router override, `c.Listens[0]`, and `host.SetDNS` applied to listenIP's result. -/
theorem gen_activate_agree :
    Gen.Activate.ports = ["53", "domain"] ∧
    Gen.Activate.wildcards = [(["", "0.0.0.0"], "127.0.0.1"), (["::"], "::1")] ∧
    Gen.Activate.splitErrorResult = "127.0.0.1" ∧ Gen.Activate.routerListen = String.ofList NV.Activate.routerListen ∧
    Gen.Activate.firstListen = true ∧ Gen.Activate.setDNSOfListenIP = true ∧
    Gen.Activate.parseIPBeforeLookup = true ∧ Gen.Activate.firstLookupAddr = true := by decide +kernel

end Activate

end NV.C19
