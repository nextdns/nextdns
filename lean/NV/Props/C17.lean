/-
  C17 — a saved configuration reloads to the same effective configuration; `config set` of one
  option leaves the other stored options unchanged.

  Model: NV.Model.Config (flagSet.Parse, Save, LoadConfig, every entry kind's String/Set pair).
  Domain of the round-trip statements: texts without leading/trailing ASCII white space
  (`trimmed`) and, where the file is one text (`file_text_roundtrip`), without '\n'; every option
  combination, list length, order of the storage map and history — no bound.
  External functions are the parameter `env`; the assumptions about them are `EnvLaws env`.
-/
import NV.Model.Config
import NV.Lemmas.Config
import NV.Gen.Config
namespace NV.C17
open NV NV.Config

/-- the option table the theorems are about has the rows of the one `(*Config).flagSet` builds now
(`NV.Gen.Config` is regenerated from the source by /verif/extract on every check): an option of either
table is in the other with the same name, kind, default and binding, and the two tables are equally long.
The order of registration is not compared (the storage is a map).  An option added, dropped, re-typed,
given another default or bound to another variable breaks this obligation. -/
theorem gen_optTable_agree :
    (∀ o, o ∈ Gen.Config.optTable ↔ o ∈ optTable) ∧ Gen.Config.optTable.length = optTable.length :=
  ⟨mem_iff_of_all (by decide +kernel), by decide⟩

/-- `ConfigUint.Set` parses with the bit size the model uses, and that size covers what the flag
package accepts (`flag.UintVar`: the platform's uint).  With the 16 of the unrepaired code this
obligation fails. -/
theorem gen_uint_bits_agree : Gen.Config.configUintBits = uintFileBits ∧ uintFlagBits ≤ uintFileBits :=
  ⟨by decide, uint_bits_le⟩

/-- `ConfigFlag.Set` accepts exactly the model's spellings (as sets), among them what
`ConfigFlag.String` prints -/
theorem gen_flag_spellings_agree :
    (∀ v, v ∈ Gen.Config.flagTrue ↔ v ∈ fileTrue) ∧ (∀ v, v ∈ Gen.Config.flagFalse ↔ v ∈ fileFalse) ∧
    lit "true" ∈ fileTrue ∧ lit "false" ∈ fileFalse ∧ (∀ v ∈ fileFalse, v ∉ fileTrue) :=
  ⟨mem_iff_of_all (by decide +kernel), mem_iff_of_all (by decide +kernel), by decide +kernel⟩

/-- a `name value` line written by `SaveConfig` is read back by `LoadConfig` as
exactly that name and value, for every name of the option table's shape and every value without
surrounding white space (the empty value included: `discovery-dns ` reads back as ""). -/
theorem line_roundtrip (n v : Str) (hn : nameOk n) (hv : trimmed v) :
    parseLine (fmtLine (n, v)) = some (n, v) := by
  rw [parseLine_fmtLine_trim n v hn, trim_of_trimmed v hv]

example : nameOk (lit "max-inflight-requests") ∧ trimmed (lit "a b=c #d") := by
  decide +kernel

/-- outside the domain the round trip fails (value with a trailing blank) -/
example : parseLine (fmtLine (lit "mdns", lit "eth0 ")) = some (lit "mdns", lit "eth0") := by decide +kernel

/-- the file as text: writing `name value\n` lines and splitting them again with `bufio.ScanLines`
gives the lines back, for values without surrounding white space that contain no '\n' (this is
where the "no newline" part of the property's domain is needed) -/
theorem file_text_roundtrip (ls : List Line)
    (h : ∀ l ∈ ls, nameOk l.1 ∧ trimmed l.2 ∧ '\n' ∉ l.2) :
    scanLines (serialize (ls.map fmtLine)) = ls.map fmtLine := by
  apply scanLines_serialize
  intro raw hraw
  obtain ⟨l, hl, rfl⟩ := List.mem_map.mp hraw
  obtain ⟨hn, hv, hnl⟩ := h l hl
  constructor
  · -- a newline would be in the name (it is white space), be the blank, or be in the value
    intro m
    rcases List.mem_append.mp m with m | m
    · exact absurd (hn.2.1 _ m) (by decide)
    · rcases List.mem_cons.mp m with m | m
      · cases m
      · exact hnl m
  · -- the line ends with the value's last character, or with the blank after the name
    intro e
    rw [fmtLine, List.getLast?_append, List.getLast?_cons, Option.some_or, Option.some.injEq] at e
    cases hlast : l.2.getLast? with
    | none => rw [hlast] at e; cases e
    | some c => rw [hlast] at e; cases e; exact absurd (hv.2 _ hlast) (by decide)

/-- re-`Set`ting the elements of a list option in order rebuilds the list,
provided no two elements fall in the same `Set` class (which `Set` itself maintains:
`setBy_keys_nodup`). -/
theorem list_set_roundtrip {α κ : Type} [DecidableEq κ] (key : α → κ) (l : List α) (h : (l.map key).Nodup) :
    l.foldl (setBy key) [] = l := by
  simpa using foldl_setBy_append key l [] (by simpa using h)

theorem set_keeps_classes_distinct {α κ : Type} [DecidableEq κ] (key : α → κ) (l : List α) (x : α)
    (h : (l.map key).Nodup) : ((setBy key l x).map key).Nodup :=
  setBy_keys_nodup key l x h

/-- `profile.String` / `newConfig` are inverse on what the parser produces -/
theorem profile_string_roundtrip (env : Env) (laws : EnvLaws env) (v : Str) (p : Profile) (hv : trimmed v)
    (h : newConfig env v = some p) : newConfig env (pstring p) = some p :=
  newConfig_pstring env p (newConfig_wf env laws v p hv h)

/-- `Resolver.String` / `newResolver` are inverse on what the parser produces -/
theorem forwarder_string_roundtrip (env : Env) (v : Str) (f : Fwd) (hv : trimmed v)
    (h : newResolver env v = some f) : newResolver env (fstring f) = some f :=
  newResolver_fstring env f (newResolver_wf env v f hv h)

/-- `raws` is a file `SaveConfig` may write for `c`: the lines of `saveLines`, options in any
(map iteration) order — even interleaved —, each option's own lines in list order -/
def SavedAs (env : Env) (c : Cfg) (raws : List Str) : Prop :=
  ∃ ls : List Line, raws = ls.map fmtLine ∧ ∀ n, valsOf n ls = valsOf n (saveLines env c)

theorem savedAs_table_order (env : Env) (c : Cfg) : SavedAs env c ((saveLines env c).map fmtLine) :=
  ⟨_, rfl, fun _ => rfl⟩

theorem stored_wf (env : Env) (c : Cfg) (hwf : WF env c) (o : Opt) (ho : o ∈ optTable) :
    WFVal env o.kind (stored c o) := by
  unfold stored; split
  · exact hwf o ho
  · exact dfltOK_wf env (table_dflt o ho)

/-- the round trip from any start `d` that holds what a table default may be (list options empty,
scalars well-formed), e.g. what `Parse` loads the file on top of when the flags set scalars only -/
theorem load_save_from (env : Env) (laws : EnvLaws env) (c : Cfg) (hwf : WF env c) (d : Cfg)
    (hd : ∀ o ∈ optTable, dfltOK o.kind (d o.nm)) (raws : List Str) (hs : SavedAs env c raws) :
    ∃ c', loadLines env d raws = some c' ∧ ∀ o ∈ optTable, c' o.nm = stored c o := by
  obtain ⟨ls, rfl, hproj⟩ := hs
  have hok : ∀ l ∈ ls, nameOk l.1 ∧ trimmed l.2 := by
    intro l hl
    have : l.2 ∈ valsOf l.1 ls := mem_valsOf.mpr hl
    rw [hproj] at this
    obtain ⟨o, ho, h1, h2⟩ := mem_saveLines env c l (mem_valsOf.mp this)
    exact ⟨h1 ▸ table_names_ok o ho, entryValues_trimmed env laws o.kind _ (stored_wf env c hwf o ho) _ h2⟩
  unfold loadLines
  rw [filterMap_parseLine_fmtLine ls hok]
  refine applyLines_of_table fun o ho => ?_
  rw [loadAt_table ho, hproj, valsOf_saveLines env c o ho]
  exact foldVals_entryValues env laws o.kind _ _ (stored_wf env c hwf o ho) (hd o ho)

/-- for every well-formed configuration and every file `SaveConfig` may have
written for it, a fresh process loads the file without error and every option has exactly the
stored value again — scalars and lists alike (`stored` is the value itself for every option bound
to a `Config` field; `hardened-privacy` is bound to a throw-away variable and stores `false`). -/
theorem load_save_id (env : Env) (laws : EnvLaws env) (c : Cfg) (hwf : WF env c) (raws : List Str)
    (hs : SavedAs env c raws) :
    ∃ c', loadLines env defaultCfg raws = some c' ∧ ∀ o ∈ optTable, c' o.nm = stored c o :=
  load_save_from env laws c hwf defaultCfg (fun o ho => defaultCfg_table o ho ▸ table_dflt o ho) raws hs

/-- the form the observational corollaries use: an option bound to a `Config` field comes back with its value -/
theorem load_save_bound (env : Env) (laws : EnvLaws env) (c : Cfg) (hwf : WF env c) (raws : List Str)
    (hs : SavedAs env c raws) :
    ∃ c', loadLines env defaultCfg raws = some c' ∧ ∀ o ∈ optTable, o.bound = true → c' o.nm = c o.nm := by
  obtain ⟨c', h1, h2⟩ := load_save_id env laws c hwf raws hs
  exact ⟨c', h1, fun o ho hb => by rw [h2 o ho, stored, if_pos hb]⟩

/-- observational corollary: `Profiles.Get` answers every client as before the save, for every match relation -/
theorem reload_same_profile_get (env : Env) (laws : EnvLaws env) (c : Cfg) (hwf : WF env c) (raws : List Str)
    (hs : SavedAs env c raws) {Client : Type} (m : CondK → Client → Bool) (cl : Client) :
    ∃ c', loadLines env defaultCfg raws = some c' ∧
      getProfile m (c' (lit "profile")).profs cl = getProfile m (c (lit "profile")).profs cl := by
  obtain ⟨c', h1, h2⟩ := load_save_bound env laws c hwf raws hs
  exact ⟨c', h1, congrArg (getProfile m ·.profs cl) (h2 _ table_profile rfl)⟩

/-- observational corollary: `Forwarders.Get` answers every name as before the save, for every match relation -/
theorem reload_same_forwarder_get (env : Env) (laws : EnvLaws env) (c : Cfg) (hwf : WF env c) (raws : List Str)
    (hs : SavedAs env c raws) {Name : Type} (m : Str → Name → Bool) (n : Name) :
    ∃ c', loadLines env defaultCfg raws = some c' ∧
      getFwd m (c' (lit "forwarder")).fwds n = getFwd m (c (lit "forwarder")).fwds n := by
  obtain ⟨c', h1, h2⟩ := load_save_bound env laws c hwf raws hs
  exact ⟨c', h1, congrArg (getFwd m ·.fwds n) (h2 _ table_forwarder rfl)⟩

/-- two files whose lines agree option by option (same values in the same
order for every option name; lines of different options permuted at will, comments and blank
lines anywhere) load to the same configuration from every starting point — or both fail. -/
theorem save_order_irrelevant (env : Env) (c : Cfg) (raws1 raws2 : List Str)
    (h : ∀ n, valsOf n (raws1.filterMap parseLine) = valsOf n (raws2.filterMap parseLine)) :
    loadLines env c raws1 = loadLines env c raws2 :=
  applyLines_congr env c _ _ h

/-- transposing two neighbouring lines of different options keeps the hypothesis of
`save_order_irrelevant` -/
theorem swap_lines_same_projection (a b : List Line) (l1 l2 : Line) (hne : l1.1 ≠ l2.1) (n : Str) :
    valsOf n (a ++ l1 :: l2 :: b) = valsOf n (a ++ l2 :: l1 :: b) := by
  rw [valsOf_append, valsOf_append]
  congr 1
  -- at most one of the two lines is named `n`; the other is skipped wherever it stands
  by_cases e1 : l1.1 = n
  · have e2 : l2.1 ≠ n := fun e => hne (e1.trans e.symm)
    simp only [valsOf_cons, if_pos e1, if_neg e2]
  · simp only [valsOf_cons, if_neg e1]

/-- the property's quantifier: argument values without surrounding white space -/
def argsOk (args : List Arg) : Prop := ∀ a ∈ args, trimmed a.value

/-- neither the command line nor the file uses the deprecated `config` option -/
def noDeprecated (file : List Str) (args : List Arg) : Prop :=
  (∀ a ∈ args, a.name ≠ lit "config") ∧ (∀ l ∈ file.filterMap parseLine, l.1 ≠ lit "config")

/-
  Full statement (FALSE for the code as it is, see `migration_duplicate_breaks_reload` below):

    theorem parse_wf (h : parseCmd env file args = some c) (hargs : argsOk args) : WF env c

  i.e. *every* configuration accepted from the command line is one that `load_save_id` applies to.
  What is missing in the `_partial` version: command lines / files that use the deprecated
  `-config` option.  The "Migrate from config to profile" step appends the deprecated list to the
  profile list without the replace-same-condition rule of `Profiles.Set`, and `-config=x` /
  `--config x` spellings are applied once more after the migration.
-/

/-- whatever `Config.Parse` accepts — any file, any flags in the domain, any
history that produced the file — is a well-formed configuration, provided the deprecated `config`
option is not used. -/
theorem parse_wf_partial (env : Env) (laws : EnvLaws env) (file : List Str) (args : List Arg) (c : Cfg)
    (hargs : argsOk args) (hdep : noDeprecated file args) (h : parseCmd env file args = some c) : WF env c := by
  obtain ⟨c1, c2, c4, h1, h2, h4, rfl⟩ := parseCmd_some h
  have w1 := applyArgs_wf env laws args defaultCfg c1 (WF_default env) hargs h1
  have w2 := loadLines_wf env laws file c1 c2 w1 h2
  -- neither a flag nor a line names `config`: it still holds its default, the empty list, and the
  -- migration does nothing
  have hnamed : lit "config" ∉ args.map (·.name) := fun m => by
    obtain ⟨a, ha, e⟩ := List.mem_map.mp m; exact hdep.1 a ha e
  have hcfg : (c2 (lit "config")).profs = [] := by
    rw [loadLines_untouched env file c1 c2 _ hdep.2 h2, applyArgs_other env args defaultCfg c1 _ h1 hnamed]
    exact congrArg Val.profs (defaultCfg_table _ table_config)
  rw [migrate_noop c2 hcfg] at h4
  have w4 := applyArgs_wf env laws _ c2 c4 w2
    (List.forall_mem_map.mpr fun b hb => renameArg_trimmed b (hargs b hb)) h4
  exact fixListen_wf env c4 w4

/-- within the limits of `parse_wf_partial`, what `Parse` accepted and `Save` wrote is loaded by the next
start to the stored value of every option (hence the same `Get`s). -/
theorem reload_after_parse_partial (env : Env) (laws : EnvLaws env) (file : List Str) (args : List Arg) (c : Cfg)
    (hargs : argsOk args) (hdep : noDeprecated file args) (h : parseCmd env file args = some c)
    (raws : List Str) (hs : SavedAs env c raws) :
    ∃ c', loadLines env defaultCfg raws = some c' ∧ ∀ o ∈ optTable, c' o.nm = stored c o :=
  load_save_id env laws c (parse_wf_partial env laws file args c hargs hdep h) raws hs

/-- the options a command line can change: the named ones, `profile` in place of a `-config` that
is rewritten, and `profile` whenever the deprecated `config` is named (migration) -/
def touched (args : List Arg) : List Str :=
  let ns := args.map (·.name) ++ (args.map renameArg).map (·.name)
  if lit "config" ∈ ns then lit "profile" :: ns else ns

theorem not_touched {args : List Arg} {n : Str} (hn : n ∉ touched args) :
    n ∉ args.map (·.name) ∧ n ∉ (args.map renameArg).map (·.name) ∧
      (n = lit "profile" → lit "config" ∉ args.map (·.name)) := by
  have hns : n ∉ args.map (·.name) ++ (args.map renameArg).map (·.name) := fun m => hn (by
    simp only [touched]; split
    · exact List.mem_cons_of_mem _ m
    · exact m)
  rw [List.mem_append, not_or] at hns
  exact ⟨hns.1, hns.2, fun e hc => hn (by simp [touched, e, hc])⟩

/-- two command lines on one file agree on every option that neither touches -/
theorem parseCmd_agree (env : Env) (file : List Str) (args args' : List Arg) (c c' : Cfg)
    (h : parseCmd env file args = some c) (h' : parseCmd env file args' = some c')
    (n : Str) (hn : n ∉ touched args) (hn' : n ∉ touched args') : c n = c' n := by
  obtain ⟨a1, a2, a4, ha1, ha2, ha4, rfl⟩ := parseCmd_some h
  obtain ⟨b1, b2, b4, hb1, hb2, hb4, rfl⟩ := parseCmd_some h'
  obtain ⟨hn1, hn2, hcfg⟩ := not_touched hn
  obtain ⟨hn1', hn2', hcfg'⟩ := not_touched hn'
  -- the two loads start from, hence end with, the same value of every option that is not named
  have agree : ∀ m, m ∉ args.map (·.name) → m ∉ args'.map (·.name) → a2 m = b2 m := fun m hm hm' =>
    loadLines_agree env file a1 b1 a2 b2 m
      ((applyArgs_other env args _ a1 m ha1 hm).trans (applyArgs_other env args' _ b1 m hb1 hm').symm) ha2 hb2
  apply fixListen_agree
  rw [applyArgs_other env _ _ a4 n ha4 hn2, applyArgs_other env _ _ b4 n hb4 hn2']
  exact migrate_agree a2 b2 n (agree n hn1 hn1') (fun e => agree _ (hcfg e) (hcfg' e))

/-- `config set ARGS` on a file leaves every option that ARGS does not touch (`touched`: name, or
reach through the deprecated `config`) exactly as a plain load of the same file has it. -/
theorem set_one_preserves_others (env : Env) (file : List Str) (args : List Arg) (c0 c1 : Cfg)
    (h0 : parseCmd env file [] = some c0) (h1 : parseCmd env file args = some c1)
    (n : Str) (hn : n ∉ touched args) : c1 n = c0 n :=
  parseCmd_agree env file args [] c1 c0 h1 h0 n hn (by simp [touched])

/-- an environment satisfying `EnvLaws` (non-vacuity, concrete runs): durations printed as a decimal code
of the nanosecond count; two condition texts accepted -/
def env0 : Env where
  parseDur := fun s => (parseDec s).map fun n => if n % 2 = 0 then ((n / 2 : Nat) : Int) else -(((n + 1) / 2 : Nat) : Int)
  fmtDur := fun d => fmtDec (if 0 ≤ d then 2 * d.toNat else 2 * (-d).toNat - 1)
  classify := fun t =>
    if t = lit "10.0.0.0/8" then some (.pfx (lit "10.0.0.0/8"))
    else if t = lit "lo" then some (.iface (lit "lo") [lit "127.0.0.1", lit "::1"])
    else none
  validAddr := fun a => a ≠ []

/-- what the laws ask of an accepted condition is `wfCond`; `env0` accepts two, checked by evaluation -/
theorem env0_cond_wf {t : Str} {ck : CondK} (h : env0.classify t = some ck) : wfCond env0 ck := by
  have ok : ∀ ck ∈ [CondK.pfx (lit "10.0.0.0/8"), .iface (lit "lo") [lit "127.0.0.1", lit "::1"]],
      wfCond env0 ck := by decide +kernel
  apply ok
  simp only [env0] at h
  split at h
  · cases h; exact .head _
  · split at h
    · cases h; exact .tail _ (.head _)
    · cases h

theorem env0_laws : EnvLaws env0 where
  dur_roundtrip := by
    intro d
    -- a duration `d ≥ 0` has the even code `2 d`, a negative one the odd code `-2 d - 1`
    simp only [env0, parseDec_fmtDec, Option.map_some, Option.some.injEq]
    by_cases h : 0 ≤ d
    · rw [if_pos h, if_pos (by omega)]; omega
    · rw [if_neg h, if_neg (by omega)]; omega
  dur_trimmed := fun d => trimmed_of_noSp _ (fmtDec_noSp _)
  cond_canon := fun _ _ h => (env0_cond_wf h).1
  cond_text := fun _ _ h => (env0_cond_wf h).2

def arg (name value : String) : Arg := { form := .sep, dd := false, name := name.toList, value := value.toList }

/-- evaluated once, for two of the examples -/
theorem parse_run : (parseCmd env0 [] [arg "profile" "lo=abc", arg "profile" "10.0.0.0/8=def", arg "profile" "ghi",
      arg "forwarder" "corp=1.2.3.4", arg "max-inflight-requests" "70000"]).map
        (fun c => ((c (lit "profile")).profs.map pstring, (c (lit "forwarder")).fwds.map fstring, c (lit "max-inflight-requests")))
    = some ([lit "lo=abc", lit "10.0.0.0/8=def", lit "ghi"], [lit "corp.=1.2.3.4"], .u 70000) := by decide +kernel

/-- a command line with every list kind is accepted; what it leaves in the list options and the uint -/
example : (parseCmd env0 [] [arg "profile" "lo=abc", arg "profile" "10.0.0.0/8=def", arg "profile" "ghi",
      arg "forwarder" "corp=1.2.3.4", arg "max-inflight-requests" "70000"]).map
        (fun c => ((c (lit "profile")).profs.map pstring, (c (lit "forwarder")).fwds.map fstring, c (lit "max-inflight-requests")))
    = some ([lit "lo=abc", lit "10.0.0.0/8=def", lit "ghi"], [lit "corp.=1.2.3.4"], .u 70000) := parse_run

example : argsOk [arg "profile" "lo=abc", arg "max-inflight-requests" "70000"] ∧
    noDeprecated [lit "# comment", lit "debug yes"] [arg "profile" "lo=abc"] := by
  unfold argsOk noDeprecated; decide +kernel

/-- the hypotheses of `load_save_id` / `reload_after_parse_partial` are satisfiable by a non-trivial
configuration (three profile kinds, a forwarder, a uint above 16 bits), and the conclusion gives the
profile list back -/
example : ∃ c c', parseCmd env0 [] [arg "profile" "lo=abc", arg "profile" "10.0.0.0/8=def", arg "profile" "ghi",
      arg "forwarder" "corp=1.2.3.4", arg "max-inflight-requests" "70000"] = some c ∧ WF env0 c ∧
    loadLines env0 defaultCfg ((saveLines env0 c).map fmtLine) = some c' ∧
    c' (lit "profile") = c (lit "profile") ∧ (c (lit "profile")).profs.length = 3 := by
  obtain ⟨c, hc, hrun⟩ := Option.map_eq_some_iff.mp parse_run
  have h3 : (c (lit "profile")).profs.length = 3 := by simpa using congrArg (·.1.length) hrun
  have hwf := parse_wf_partial env0 env0_laws [] _ c (by unfold argsOk; decide +kernel)
    (by unfold noDeprecated; decide +kernel) hc
  obtain ⟨c', h1, h2⟩ := load_save_id env0 env0_laws c hwf _ (savedAs_table_order env0 c)
  exact ⟨c, c', hc, hwf, h1, h2 _ table_profile, h3⟩

/-- `set_one_preserves_others` applies to a real `config set`: `debug` is not touched by `-profile …` -/
example : lit "debug" ∉ touched [arg "profile" "lo=abc"] ∧ lit "profile" ∈ touched [arg "config" "abc"] ∧
    (parseCmd env0 [lit "debug yes", lit "profile 10.0.0.0/8=x"] []).isSome ∧
    (parseCmd env0 [lit "debug yes", lit "profile 10.0.0.0/8=x"] [arg "profile" "lo=abc"]).isSome := by decide +kernel

/-- inside one list option the order of the lines matters (same condition: the later line wins) -/
example :
    (loadLines env0 defaultCfg [lit "profile a", lit "debug true", lit "profile b"]).map
        (fun c => (c (lit "profile")).profs.map pstring) = some [lit "b"] ∧
    (loadLines env0 defaultCfg [lit "profile b", lit "profile a", lit "debug true"]).map
        (fun c => (c (lit "profile")).profs.map pstring) = some [lit "a"] := by decide +kernel

/-- `profile.String` as found dropped an interface condition: the reloaded profile is unconditional -/
theorem orig_string_drops_interface :
    newConfig env0 (lit "lo=abc") = some ⟨some (.iface (lit "lo") [lit "127.0.0.1", lit "::1"]), lit "abc"⟩ ∧
    newConfig env0 (pstringOrig ⟨some (.iface (lit "lo") [lit "127.0.0.1", lit "::1"]), lit "abc"⟩) = some ⟨none, lit "abc"⟩ ∧
    newConfig env0 (pstring ⟨some (.iface (lit "lo") [lit "127.0.0.1", lit "::1"]), lit "abc"⟩)
      = some ⟨some (.iface (lit "lo") [lit "127.0.0.1", lit "::1"]), lit "abc"⟩ := by decide +kernel

/-- `ConfigUint.Set` as found (bit size 16) rejected what the flag accepts and `Save` writes -/
theorem orig_uint_16_rejects_saved_value :
    parseUint uintFlagBits (lit "70000") = some 70000 ∧ parseUint 16 (fmtDec 70000) = none ∧
    parseUint uintFileBits (fmtDec 70000) = some 70000 :=
  ⟨by decide +kernel, by simp [parseUint, parseDec_fmtDec], parseUint_fmtDec _ _ (by decide)⟩

/-- OPEN (known finding): the deprecated `-config` next to `-profile` with the same condition.
`Parse` accepts the command line, the profile list holds the condition twice (not well-formed), the
client 10.x gets `b`; the saved file reloads to a list where it gets `a`. -/
theorem migration_duplicate_breaks_reload :
    let args := [arg "config" "10.0.0.0/8=a", arg "profile" "10.0.0.0/8=b"]
    let m : CondK → Unit → Bool := fun _ _ => true
    ∃ before after, (parseCmd env0 [] args).map (fun c => (c (lit "profile")).profs) = some before ∧
      before.map pkey = [.pfx (lit "10.0.0.0/8"), .pfx (lit "10.0.0.0/8")] ∧
      -- the `profile` lines `Save` writes, and what `LoadConfig` makes of them (see `applyLines_iff`)
      entryValues env0 (.ps before) = [lit "10.0.0.0/8=b", lit "10.0.0.0/8=a"] ∧
      foldVals env0 .profiles (.ps []) (entryValues env0 (.ps before)) = some (.ps after) ∧
      getProfile m before () = lit "b" ∧ getProfile m after () = lit "a" :=
  ⟨[⟨some (.pfx (lit "10.0.0.0/8")), lit "b"⟩, ⟨some (.pfx (lit "10.0.0.0/8")), lit "a"⟩],
   [⟨some (.pfx (lit "10.0.0.0/8")), lit "a"⟩], by decide +kernel⟩

/-- OPEN (same finding): `-config=x` is not rewritten to `-profile`, is applied again after the
migration and is saved as a `config` line, which the next start migrates once more: the entry is in
the profile list once before the restart and twice after. -/
theorem unrenamed_config_is_migrated_twice :
    (parseCmd env0 [] [{ form := .eq, dd := false, name := lit "config", value := lit "abc" }]).map
      (fun c => ((c (lit "profile")).profs.map pstring, (c (lit "config")).profs.map pstring))
      = some ([lit "abc"], [lit "abc"]) ∧
    (parseCmd env0 [lit "profile abc", lit "config abc"] []).map
      (fun c => ((c (lit "profile")).profs.map pstring, (c (lit "config")).profs.map pstring))
      = some ([lit "abc", lit "abc"], []) := by decide +kernel

/-- the stored `hardened-privacy` entry is bound to a throw-away variable: `Save` writes the default
whatever was set (the option is deprecated and has no effect) -/
theorem hardened_privacy_not_stored (c : Cfg) :
    stored c ⟨"hardened-privacy", .bool, .b false, false⟩ = .b false ∧
    ⟨"hardened-privacy", .bool, .b false, false⟩ ∈ optTable ∧
    (∀ o ∈ optTable, o.bound = false → o.name = "hardened-privacy") := by
  refine ⟨rfl, by decide +kernel⟩

end NV.C17
