/-
  C14 — client metadata is minimal and can never break resolution.

  All statements quantify over EVERY hash function `H` (xxhash.Sum64 is a parameter), every profile,
  peer address, MAC, every content of the discovery tables (arbitrary byte strings as names), every
  ExtraHeaders map; no size bound anywhere.  Model: NV.Model.ClientInfo (run.go setupClientReporting /
  normalizeName / shortID, resolver/doh.go header construction, net/http validateHeaders).

  Two defects of the unchanged tree were found by this check and repaired (known_findings.json):
    * a discovered name with a control byte made net/http reject every request of that client
      (`name_header_valid` was false: witness `sanitizer_needed` below);
    * for xxhash values below 32^4 `shortID` exposed profile/MAC bytes (`shortID_charset` was only
      true under `32^4 ≤ H …`; the old function is written out in `NV.CI.shortIDLegacy_eq`, one leak
      of it is `NV.CI.shortIDLegacy_leaks_mac`).
-/
import NV.Model.ClientInfo
import NV.Lemmas.ClientInfo
import NV.Gen.ClientInfo
namespace NV.C14
open NV NV.CI

/-- the literal `req.Header.Set(k, v)` calls and the `if ci.F != "" { Set(k, [headerValue](ci.F)) }`
blocks of DOH.resolve (each list sorted by key: keys are distinct, so the order inside a group is
irrelevant) are the ones the model builds; only the name goes through the sanitiser; the
ExtraHeaders loop sits between the two groups, as in `buildHeaders` -/
theorem gen_headers_agree :
    Gen.CI.fixedHeaders = fixedHeaders ∧
    Gen.CI.deviceHeaders = [(kDevId, "ID", false), (kDevIp, "IP", false), (kDevModel, "Model", false), (kDevName, "Name", true)] ∧
    Gen.CI.extrasAfterFixed = true ∧ Gen.CI.extrasBeforeDevice = true := by
  decide +kernel

/-- constants of shortID: capacity floor 13, base 32, cut 5, padding byte '0' -/
theorem gen_shortID_consts :
    Gen.CI.shortIDMinCap = 13 ∧ Gen.CI.shortIDBase = 32 ∧ Gen.CI.shortIDLen = 5 ∧ Gen.CI.shortIDPad = 48 := by
  decide

/-- the sanitiser's byte test, translated from `headerValue` in resolver/doh.go, is the model's -/
theorem gen_keepByte_agree (c : UInt8) : Gen.CI.keepByte c.toNat = keepByte c := by
  -- the same Boolean formula, with `decide (· = ·)` for `==` and `decide (· ≠ ·)` for `!=`
  simp [Gen.CI.keepByte, keepByte, bne, Bool.beq_eq_decide_eq]

def isDeviceKey (k : Bytes) : Prop := kDevPrefix <+: k

instance (k : Bytes) : Decidable (isDeviceKey k) := by unfold isDeviceKey; infer_instance

/-- **reporting off ⇒ no device-identifying header**: with `DOH.ClientInfo == nil` the request
carries no `X-Device-*` header (beyond what a caller put into ExtraHeaders itself; run.go puts only
`User-Agent` there). -/
theorem reporting_off_no_device_headers (extra : Headers) (hex : ∀ kv ∈ extra, ¬ isDeviceKey kv.1) :
    ∀ kv ∈ buildHeaders none extra, ¬ isDeviceKey kv.1 := by
  intro kv hm
  rcases mem_buildHeaders hm with h | h | ⟨p, hp, hne, _⟩
  · exact fixedHeaders_not_device kv h
  · exact hex kv h
  · -- with the zero ClientInfo every device field is empty
    simp only [Option.getD_none, deviceFields, List.mem_cons, List.not_mem_nil, or_false] at hp
    rcases hp with rfl | rfl | rfl | rfl <;> exact absurd rfl hne

/-- with reporting off the request does not depend on the client at all -/
theorem reporting_off_indep (H H' : Bytes → Nat) (x x' : Input) (extra : Headers) :
    requestHeaders H false x extra = requestHeaders H' false x' extra := rfl

example : ∀ kv ∈ buildHeaders none [(str "User-Agent", [str "nextdns-cli/1.0"])], ¬ isDeviceKey kv.1 :=
  reporting_off_no_device_headers _ (by decide +kernel)
-- non-vacuity: with reporting ON the same request does carry device headers
example : ∃ kv ∈ buildHeaders (some { id := str "AB12C" }) [], isDeviceKey kv.1 := by decide +kernel

/-- the id is the five leading base-32 digits of the hash of `conf ++ dev`, right-padded with '0': a function of
profile ‖ device only, and after the repair not even of the bytes themselves -/
theorem shortID_eq (H : Bytes → Nat) (conf dev : Bytes) :
    shortID H conf dev = ((base32 (H (conf ++ dev)) ++ List.replicate 4 48).take 5).map upperByte :=
  shortIDSum_eq _ _ _

/-- **five characters**, for every hash value, profile and device -/
theorem shortID_len5 (H : Bytes → Nat) (conf dev : Bytes) : (shortID H conf dev).length = 5 := by
  rw [shortID_eq]
  have := base32_length_pos (H (conf ++ dev))
  simp [List.length_take]; omega

/-- the device the id is derived from: the MAC when known, else the peer address -/
def deviceOf (x : Input) : Bytes := x.mac.getD x.peer

theorem clientInfo_lan (H : Bytes → Nat) (x : Input) (hx : isLoopback x.peer = false) :
    clientInfo H x =
      { id := shortID H x.prof (deviceOf x), ip := x.ipstr, model := (x.mac.map macModel).getD [],
        name := if x.mac.isSome ∧ x.macNames.length > 0 then normalizeName x.macNames
                else normalizeName x.addrNames } := by
  unfold clientInfo deviceOf
  simp only [hx]
  cases x.mac <;> simp

/-- closure level: two LAN queries with the same profile and the same device get the same id,
whatever their names, addresses, lookup results are -/
theorem id_fn_of_profile_device (H : Bytes → Nat) (x y : Input)
    (hx : isLoopback x.peer = false) (hy : isLoopback y.peer = false)
    (hp : x.prof = y.prof) (hd : deviceOf x = deviceOf y) (hm : x.mac.isSome = y.mac.isSome) :
    (clientInfo H x).id = (clientInfo H y).id := by
  rw [clientInfo_lan H x hx, clientInfo_lan H y hy, hp, hd]

/-- **charset**: every character of the id is one of 0-9 A-V — for EVERY hash value.
(Unchanged tree: only for `32^4 ≤ H (conf ++ dev)`; below that the id ended in input bytes, `NV.CI.shortIDLegacy_eq`.) -/
theorem shortID_charset (H : Bytes → Nat) (conf dev : Bytes) : ∀ c ∈ shortID H conf dev, isB32Upper c := by
  rw [shortID_eq]
  intro c hc
  simp only [List.mem_map] at hc
  obtain ⟨d, hd, rfl⟩ := hc
  have hd' := List.mem_of_mem_take hd
  simp only [base32, List.mem_append, List.mem_reverse, List.mem_replicate] at hd'
  -- a digit of the hash, or the padding byte '0' = digit 0
  obtain ⟨i, rfl⟩ : ∃ i : Fin 32, d = digit32 i.val := hd'.elim (mem_b32rev _ _ d) fun h => ⟨0, h.2⟩
  exact upperByte_digit32 i

/-- consequently no byte of the profile or of the device can be read off the id other than
through the hash: two inputs with equal hash are indistinguishable -/
theorem shortID_hides_input (H : Bytes → Nat) (c d c' d' : Bytes) (h : H (c ++ d) = H (c' ++ d')) :
    shortID H c d = shortID H c' d' := by
  rw [shortID_eq, shortID_eq, h]

theorem shortID_valid (H : Bytes → Nat) (conf dev : Bytes) : validHeaderValue (shortID H conf dev) = true := by
  unfold validHeaderValue
  rw [List.all_eq_true]
  intro c hc
  have := shortID_charset H _ _ c hc
  unfold isB32Upper at this
  -- 0-9 and A-V lie in 32..126: no control byte, not DEL
  simp only [validValueByte, isCTL, isLWS, Bool.not_eq_true', Bool.and_eq_false_iff, Bool.or_eq_false_iff,
    decide_eq_false_iff_not, beq_eq_false_iff_ne, ne_eq]
  omega

example : shortID (fun _ => 27) [0x89] [0x8f, 0x63, 0x9e, 0x38, 0xcf, 0x17, 0xb3] = str "R0000" := by decide +kernel
example : shortID (fun _ => 2 ^ 64 - 1) (str "abc123") [1, 2, 3, 4, 5, 6] = str "FVVVV" := by decide +kernel

/-- **only the vendor prefix**: the model depends on the first three MAC bytes only -/
theorem model_only_oui (H : Bytes → Nat) (x : Input) (m1 m2 : Bytes) (h : m1.take 3 = m2.take 3) :
    (clientInfo H { x with mac := some m1 }).model = (clientInfo H { x with mac := some m2 }).model := by
  unfold clientInfo
  simp only
  split
  · rfl
  · simp only
    rw [macModel_take3 m1, macModel_take3 m2, h]

/-- and it is spelled "mac:aa:bb:cc" -/
theorem model_value (a b c : UInt8) (rest : Bytes) :
    macModel (a :: b :: c :: rest) = str "mac:" ++ macString [a, b, c] := by
  rw [macModel_take3]; simp [macModel, macString]

/-- **the full MAC is never sent**: for a 6-byte MAC neither MAC-derived header value (id, model)
contains the colon-hex MAC.  (The two other values are the peer's address text and the discovered
name: they are not derived from the MAC — `ip_name_not_from_mac`.) -/
theorem full_mac_not_in_headers (H : Bytes → Nat) (x : Input) (mac : Bytes) (hm : x.mac = some mac)
    (h6 : mac.length = 6) (hx : isLoopback x.peer = false) :
    ¬ (macString mac <:+: (clientInfo H x).id) ∧ ¬ (macString mac <:+: (clientInfo H x).model) := by
  -- both values are shorter than the 17 characters of the MAC text
  have hl : (macString mac).length = 17 := by rw [macString_length, h6]
  have hmod := macModel_length_le mac
  simp only [clientInfo_lan H x hx, hm, Option.map_some, Option.getD_some]
  constructor <;> intro hin <;> have := hin.length_le
  · rw [shortID_len5, hl] at this
    omega
  · omega

/-- address and name do not depend on the MAC's bytes (only on what the tables return) -/
theorem ip_name_not_from_mac (H : Bytes → Nat) (x : Input) (m1 m2 : Bytes) :
    (clientInfo H { x with mac := some m1 }).ip = (clientInfo H { x with mac := some m2 }).ip ∧
    (clientInfo H { x with mac := some m1 }).name = (clientInfo H { x with mac := some m2 }).name := by
  unfold clientInfo
  simp only
  split <;> simp

def exLan : Input :=
  { peer := [192, 168, 1, 5], mac := some [0xaa, 0xbb, 0xcc, 1, 2, 3], prof := str "abc123",
    ipstr := str "192.168.1.5", addrNames := [], macNames := [] }
example : (clientInfo (fun _ => 123456789) exLan).model = str "mac:aa:bb:cc" := by decide +kernel
-- non-vacuity: the hypotheses of the theorems above hold for a concrete LAN client
example : ¬ (macString [0xaa, 0xbb, 0xcc, 1, 2, 3] <:+: (clientInfo (fun _ => 5) exLan).id) ∧
    ¬ (macString [0xaa, 0xbb, 0xcc, 1, 2, 3] <:+: (clientInfo (fun _ => 5) exLan).model) :=
  full_mac_not_in_headers _ exLan _ rfl rfl (by decide)
example : (clientInfo (fun _ => 5) { exLan with mac := some [0xaa, 0xbb, 0xcc, 1, 2, 3] }).model =
    (clientInfo (fun _ => 5) { exLan with mac := some [0xaa, 0xbb, 0xcc, 9, 9, 9, 9, 9] }).model :=
  model_only_oui _ exLan _ _ (by decide)
example : (clientInfo (fun b => b.length) exLan).id =
    (clientInfo (fun b => b.length) { exLan with peer := [10, 0, 0, 1], ipstr := str "10.0.0.1", addrNames := [str "x"] }).id :=
  id_fn_of_profile_device _ _ _ (by decide) (by decide) rfl rfl rfl

/-- for EVERY byte string a source can store as a name (indeed every byte string at all), whatever else is in the
request, the `X-Device-Name` value the request carries is a valid header value … -/
theorem name_header_valid (ci : ClientInfo) (extra : Headers) (h : sanitize ci.name ≠ []) :
    hget (buildHeaders (some ci) extra) kDevName = some [sanitize ci.name] ∧
    validHeaderValue (sanitize ci.name) = true := by
  refine ⟨?_, sanitize_valid _⟩
  -- the name is set last, so nothing overwrites it
  rw [buildHeaders, Option.getD_some, setIfNonEmpty, if_neg h]
  exact hget_hset_self _ _ _

/-- … hence the name is never the reason for net/http to reject the request: if the request
without a name passes `validateHeaders`, so does the request with ANY name. -/
theorem name_never_rejects (ci : ClientInfo) (extra : Headers)
    (h : accepted (buildHeaders (some { ci with name := [] }) extra) = true) :
    accepted (buildHeaders (some ci) extra) = true := by
  -- the request with the name is the request without it plus, at most, one valid entry
  have e : buildHeaders (some ci) extra =
      setIfNonEmpty (buildHeaders (some { ci with name := [] }) extra) kDevName (sanitize ci.name) := rfl
  rw [e, accepted_iff]
  intro kv hm
  rcases mem_setIfNonEmpty hm with ⟨_, rfl⟩ | hm
  · simp [entryOK, sanitize_valid, deviceKeys_valid kDevName]
  · exact (accepted_iff _).mp h kv hm

example : hget (buildHeaders (some { name := [0x4a, 0x0a, 0x6f] }) []) kDevName = some [[0x4a, 0x6f]] :=
  (name_header_valid { name := [0x4a, 0x0a, 0x6f] } [] (by decide)).1
example : accepted (buildHeaders (some { id := str "AB12C", name := [0, 0x7f, 0x0a, 0x41] }) []) = true :=
  name_never_rejects _ _ (accepted_buildHeaders _ _ rfl (by decide +kernel) rfl rfl)

theorem valid_name_unchanged (n : Bytes) (h : validHeaderValue n = true) : sanitize n = n := by
  rw [sanitize, List.filter_eq_self]
  intro b hb
  rw [keepByte_eq_valid]
  exact List.all_eq_true.mp h b hb

/-- **LAN clients keep resolving**: for a non-loopback client, every content of the name tables,
every MAC, profile and hash function, the request passes net/http's header validation, provided the
configured extra headers are valid and the address text is (it is `net.IP.String()`). -/
theorem lan_request_accepted (H : Bytes → Nat) (x : Input) (extra : Headers)
    (hx : isLoopback x.peer = false) (hex : accepted extra = true) (hip : validHeaderValue x.ipstr = true) :
    accepted (requestHeaders H true x extra) = true := by
  rw [requestHeaders_on]
  refine accepted_buildHeaders _ _ hex ?_ ?_ ?_ <;> simp only [clientInfo_lan H x hx]
  · exact shortID_valid H _ _
  · exact hip
  · cases x.mac
    · rfl
    · exact macModel_valid _

/-- loopback clients (the host itself): accepted when the host's own model text and machine id are
valid header values (local-machine values, outside the LAN quantifier); the host NAME may be anything. -/
theorem loopback_request_accepted (H : Bytes → Nat) (x : Input) (extra : Headers)
    (hx : isLoopback x.peer = true) (hex : accepted extra = true)
    (hm : validHeaderValue x.hostModel = true) (hid : validHeaderValue ((x.machineID.take 5).map upperASCII) = true) :
    accepted (requestHeaders H true x extra) = true := by
  rw [requestHeaders_on]
  refine accepted_buildHeaders _ _ hex ?_ ?_ ?_ <;> simp only [clientInfo, hx, if_true]
  · exact hid
  · rfl
  · exact hm

/-- the sanitiser is needed (the defect of the unchanged tree, DESIGN §6, C14, repository commit 268c30c): the mDNS filter
stores a name containing a line feed, `normalizeName` keeps it, and a request carrying it
unsanitised is rejected by net/http before it is sent. -/
theorem sanitizer_needed :
    mdnsStored [0x61, 0x0a, 0x62] = some [0x61, 0x0a, 0x62, 0x2e] ∧
    normalizeName [[0x61, 0x0a, 0x62, 0x2e]] = [0x61, 0x0a, 0x62] ∧
    accepted (hset [] kDevName [[0x61, 0x0a, 0x62]]) = false ∧
    accepted (buildHeaders (some { name := [0x61, 0x0a, 0x62] }) []) = true :=
  ⟨by decide, by decide, by decide +kernel, accepted_buildHeaders _ _ rfl rfl rfl rfl⟩

def exHostile : Input :=
  { peer := [192, 168, 1, 5], mac := some [0x8f, 0x63, 0x9e, 0x38, 0xcf, 0x17], prof := [0x89],
    ipstr := str "192.168.1.5", addrNames := [[0, 10, 127, 46]],
    macNames := [[0x61, 0x0a, 0x00, 0x7f, 0x62, 0x2e, 0x6c]] }
example : accepted (requestHeaders (fun _ => 27) true exHostile [(str "User-Agent", [str "nextdns-cli/1.44"])]) = true :=
  lan_request_accepted _ _ _ (by decide) (by decide +kernel) (by decide +kernel)
example : accepted (requestHeaders (fun _ => 27) true
    { exHostile with peer := [127, 0, 0, 1], hostName := [0x68, 0x0a], machineID := str "95d6ec12b2", hostModel := str "Debian" } []) = true :=
  loopback_request_accepted _ _ _ (by decide) rfl (by decide +kernel) (by decide +kernel)
-- the same by evaluation, with hostile names and the real User-Agent shape
example : accepted (requestHeaders (fun _ => 27) true exHostile
    [(str "User-Agent", [str "nextdns-cli/1.44 (linux; amd64; systemd)"])]) = true := by decide +kernel
example : hget (requestHeaders (fun _ => 27) true exHostile []) kDevName = some [str "ab"] := by decide +kernel

end NV.C14
