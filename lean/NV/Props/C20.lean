/-
  C20 — router integration points dnsmasq at the proxy and undoes it on stop.

  The theorems are about `NV.Model.Router` (New/Configure/Setup/Restore of the eight firmware
  packages over files · uci · nvram · dnsmasq's view) instantiated with the constants REGENERATED from
  router/*/setup.go (`NV.Gen.Router`: templates, ListenPort, drop-in paths, the `c.Listens`
  expressions, restart argv's, exported struct fields, nvram lists, detection order).
  FORWARDS_TO_LISTEN is a table over firmware × configuration that the kernel evaluates; RESTORE_UNDOES is proved by
  firmware family, on every state: the drop-in files (`DropinGone`), openwrt's uci store, ddwrt's nvram, merlin's
  postconf script; UNCLEAN_RESTART (Restore after `afterCrash`) for the drop-in files and merlin's script — for which
  the template is taken apart: the head NextDNS renders ends in the marker line at which the next New() cuts.  No
  theorem covers openwrt's uci store after a crash.  Last, run.go's OnStarted / OnStopped hooks that call Setup and
  Restore (`NV.Gen.Hooks`), on the service life cycle of `NV.Model.SvcLife`.
-/
import NV.Lemmas.Router
import NV.Gen.Router
import NV.Lemmas.RouterUci
import NV.Model.SvcLife
import NV.Lemmas.SvcLife
import NV.Gen.Hooks
namespace NV.C20
open NV NV.Router NV.Tmpl

def constsOf : Fw → FwConsts
  | .openwrt => Gen.Router.openwrt | .merlin => Gen.Router.merlin | .ddwrt => Gen.Router.ddwrt
  | .edgeos => Gen.Router.edgeos | .synology => Gen.Router.synology | .ubios => Gen.Router.ubios
  | .firewalla => Gen.Router.firewalla | .generic => Gen.Router.generic

/-- ddwrt's two nvram lists: every firmware's `configure` / `setup` takes them, only ddwrt's reads them -/
abbrev names := Gen.Router.ddwrtSaveNames
abbrev vars := Gen.Router.ddwrtSetVars

/-- tie: what /verif/extract reads from the repository is what the hand copy (`NV.Router.Hand`) says; a
change of any of these constants in the source breaks this obligation -/
theorem gen_consts_agree :
    Gen.Router.openwrt = Hand.openwrt ∧ Gen.Router.merlin = Hand.merlin ∧ Gen.Router.ddwrt = Hand.ddwrt ∧
    Gen.Router.edgeos = Hand.edgeos ∧ Gen.Router.synology = Hand.synology ∧ Gen.Router.ubios = Hand.ubios ∧
    Gen.Router.firewalla = Hand.firewalla ∧ Gen.Router.generic = Hand.generic ∧
    Gen.Router.ddwrtSaveNames = Hand.ddwrtSaveNames ∧ Gen.Router.ddwrtSetVars = Hand.ddwrtSetVars ∧
    Gen.Router.detectOrder = Hand.detectOrder := by decide +kernel

/-- no firmware package assigns `Router.ListenPort` outside `New()`: the port
the templates name (merlin's spells `5342` out instead of using `{{.ListenPort}}`) and the port put
into `c.Listens` are the same constant, which is what the rows of `forwards_to_listen` are computed
from. A Configure that picks another port at run time breaks this obligation. -/
theorem gen_listen_port_constant : Gen.Router.portReassigned = [] := by decide

/-- every firmware the property lists is reachable from detectRouter, under its own name, and
`generic` is the last resort -/
theorem detect_covers_all_firmwares :
    (∀ fw ∈ Fw.all, fw.name ∈ Gen.Router.detectOrder ∧ (constsOf fw).name = fw.name) ∧
    Gen.Router.detectOrder.getLast? = some Fw.generic.name := by decide +kernel

/-! tie: the argv's regenerated from the source are, for the tool semantics of the jail shims, a
restart of dnsmasq (ddwrt: stop, then start) — a changed argv breaks these obligations -/

abbrev RestartsBy (c : FwConsts) : Prop := ∀ s, runCmds c.cmds s = (true, restartNow s)

theorem restartsBy_openwrt : RestartsBy Gen.Router.openwrt := fun _ => rfl
theorem restartsBy_merlin : RestartsBy Gen.Router.merlin := fun _ => rfl
theorem restartsBy_edgeos : RestartsBy Gen.Router.edgeos := fun _ => rfl
theorem restartsBy_synology : RestartsBy Gen.Router.synology := fun _ => rfl
theorem restartsBy_firewalla : RestartsBy Gen.Router.firewalla := fun _ => rfl
theorem ddwrt_cmds (s : Sys) : runCmds Gen.Router.ddwrt.cmds s = (true, restartNow { s with view := none }) := rfl

def takeQuoted : Bytes → Bytes
  | [] => []
  | c :: r => if c = 34 then [] else c :: takeQuoted r   -- 34: `"`

/-- dnsmasq directives of an installed text: its non-comment lines; for the merlin postconf script the
arguments of `pc_append "…"` before the `## NextDNS END` marker (what follows is the user's script) -/
def directives (fw : Fw) (text : Bytes) : List Bytes :=
  match fw with
  | .merlin =>
    ((splitLines text).takeWhile (· ≠ endMarker)).filterMap fun l =>
      let l := dropWs l
      if isPrefix b!"pc_append \"" l then some (takeQuoted (l.drop 11)) else none   -- 11: its length
  | _ => (splitLines text).filter fun l => !isPrefix b!"#" l

structure Row where
  fw : Fw
  cache : Bool
  report : Bool
  port : Nat      -- openwrt uci dhcp.@dnsmasq[0].port: 0 absent, 1 "53", 2 "5353"
  dhcp : Bool     -- synology: DHCP enabled in /etc/dhcpd/dhcpd.info
  deriving DecidableEq, Repr

def allRows : List Row :=
  Fw.all.flatMap fun fw => [true, false].flatMap fun cache => [true, false].flatMap fun report =>
    match fw with
    | .openwrt => [0, 1, 2].map fun p => ⟨fw, cache, report, p, true⟩
    | .synology => [true, false].map fun d => ⟨fw, cache, report, 0, d⟩
    | _ => [⟨fw, cache, report, 0, true⟩]

/-- a pre-existing state on which the firmware is detected and can be set up -/
def rowState (r : Row) : Sys :=
  let files : Store := match r.fw with
    | .openwrt => [(b!"/etc/os-release", b!"ID=\"openwrt\"\n")]
    | .merlin => [(b!"/.nv/uname-o", b!"ASUSWRT-Merlin\n"), (b!"/jffs/scripts/dnsmasq.postconf", b!"#!/bin/sh\nexit 0\n")]
    | .ddwrt => [(b!"/.nv/uname-o", b!"DD-WRT\n")]
    | .edgeos => [(b!"/etc/ubnt/init/vyatta-router", [])]
    | .synology => [(b!"/.nv/uname-u", b!"synology_x\n"), (b!"/etc/dhcpd/dhcpd.info", if r.dhcp then b!"enable=\"yes\"\n" else b!"enable=\"no\"\n")]
    | .ubios => [(b!"/data/unifi/.keep", []), (b!"/run/dnsmasq.pid", b!"1234\n")]
    | .firewalla => [(b!"/etc/firewalla_release", [])]
    | .generic => []
  let uci : UStore := match r.fw with
    | .openwrt => [(kLanIP, [b!"192.168.1.1"])] ++
        (if r.port = 1 then [(kPort, [b!"53"])] else if r.port = 2 then [(kPort, [b!"5353"])] else [])
    | _ => []
  let s : Sys := { files := files, uciS := uci, uciC := uci }
  { s with view := some (snapOf s) }

def rowCfg (r : Row) : Cfg :=
  { listens := [b!"localhost:53"], cacheSize := if r.cache then b!"10MB" else b!"0", report := r.report, cacheOn := r.cache }

def rowRun (r : Row) : Option (Bool × Cfg × Sys) :=
  let c := constsOf r.fw
  match new c r.fw (rowState r) with
  | none => none
  | some o =>
    let a := configure c names vars r.fw o (rowCfg r) (rowState r)
    let b := setup c names vars r.fw a.2.1 a.2.2.2
    some (a.1 && b.1, a.2.2.1, b.2.2)

def stripPrefix (p l : Bytes) : Option Bytes := if isPrefix p l then some (l.drop p.length) else none

/-- FORWARDS_TO_LISTEN on the state Setup left, as a test (in words at `forwards_to_listen`) -/
def rowSpec (r : Row) (cfg : Cfg) (s : Sys) : Bool :=
  let c := constsOf r.fw
  let text : Option Bytes := match r.fw with
    | .ddwrt => aget s.nvL b!"dnsmasq_options"
    | .generic => none
    | _ => aget s.files c.path
  let dirs := match text with | some t => directives r.fw t | none => []
  let servers := dirs.filter fun d => isPrefix b!"server=" d
  let synced := s.view = some (snapOf s)
  if cfg.listens = [b!":53"] then
    -- the proxy takes port 53: dnsmasq must not forward to it and its own DNS must be off port 53
    servers.isEmpty && synced &&
    (match text with
     | some _ => dirs.contains b!"port=0" ||
         (r.fw = .openwrt && (match aget s.uciC kPort with | some p => p ≠ [b!"53"] | none => false))
     | none => r.fw = .generic || (r.fw = .synology && !r.dhcp))
  else
    match cfg.listens with
    | [l] =>
      match (stripPrefix b!"127.0.0.1:" l).orElse (fun _ => stripPrefix b!"localhost:" l) with
      | some port =>
        servers = [b!"server=127.0.0.1#" ++ port] && synced &&
        (dirs.contains b!"add-mac" == (r.report || r.fw = .firewalla)) &&
        dirs.contains b!"add-subnet=32,128" && !dirs.contains b!"port=0"
      | none => false
    | _ => false

def rowOK (r : Row) : Bool :=
  match rowRun r with
  | some (true, cfg, s) => rowSpec r cfg s
  | _ => false

/-- FORWARDS_TO_LISTEN: for every firmware × cache on/off × client reporting on/off × firmware flag
(openwrt uci port absent/53/custom, synology DHCP on/off), after New; Configure; Setup the installed
dnsmasq text has exactly one `server=` directive and it names the address/port Configure put into
c.Listens (127.0.0.1 or localhost, same port) with `add-mac` iff client reporting (always on
firewalla) and `add-subnet=32,128`; or Configure chose `:53` and then there is no `server=` and
dnsmasq's DNS is off port 53 (`port=0`, or openwrt with a custom uci port; generic and synology with
DHCP disabled install nothing); and dnsmasq was restarted after the last change. -/
theorem forwards_to_listen : ∀ r ∈ allRows, rowOK r = true := by
  -- the table is evaluated through `splitLines_eq` (see `NV.Router.linesRev`)
  simp only [rowOK, rowSpec, directives.eq_def, splitLines_eq]
  decide +kernel

example : allRows.length = 44 := by decide

/-- FORWARDS_TO_LISTEN is FALSE on ubios when Configure fails (UDM content filtering on): run.go
logs the error and still runs Setup, which installs `server=127.0.0.1#5342` while c.Listens is still
the default (recorded finding; the table theorem covers the rows where Configure succeeds). -/
theorem ubios_setup_after_failed_configure :
    let s0 : Sys := { files := [(b!"/data/unifi/.keep", []), (b!"/run/dnsmasq.pid", b!"1234\n"), (b!"/run/dnsfilter/dnsfilter", b!"x")] }
    let cfg : Cfg := { listens := [b!"localhost:53"], cacheSize := b!"0", report := true }
    (new (constsOf .ubios) .ubios s0).map (fun o =>
      let a := configure (constsOf .ubios) names vars .ubios o cfg s0
      let b := setup (constsOf .ubios) names vars .ubios a.2.1 a.2.2.2
      (a.1, a.2.2.1.listens, b.1,
        (aget b.2.2.files Gen.Router.ubios.path).map fun t => (directives .ubios t).filter (isPrefix b!"server=")))
    = some (false, [b!"localhost:53"], true, some [b!"server=127.0.0.1#5342"]) := by decide +kernel

/-! `forwards_to_listen` evaluates the renders on one state per table row; these theorems show that on
EVERY state a successful Setup of a firmware with a drop-in file leaves exactly `renderFw c o` there —
a function of the constants (template, ListenPort) and of the Router value (DNSMasqPath, ClientReporting,
CacheEnabled, SetPort0, CurrentPostConf), not of the state — and that dnsmasq was restarted after it was
written.  `fileSetup` is the Setup of merlin, edgeos and firewalla; openwrt's theorem is about `owFinish`,
the tail of its Setup; ddwrt, whose render goes into nvram, has no theorem of this family. -/

theorem fileSetup_eq (c : FwConsts) (hc : RestartsBy c) (o : Obj) (s : Sys) (b : Bytes) (hr : renderFw c o = .ok b) :
    fileSetup c o s = (true, o, restartNow { s with files := aset s.files o.path b }) := by
  simp [fileSetup, writeTemplate_eq c o s b hr, hc _]

theorem setup_installs_render_file (c : FwConsts) (hc : RestartsBy c) (o : Obj) (s : Sys)
    (h : (fileSetup c o s).1 = true) :
    ∃ b, renderFw c o = .ok b ∧ (fileSetup c o s).2.2 = restartNow { s with files := aset s.files o.path b } := by
  cases hr : renderFw c o with
  | ok b => exact ⟨b, rfl, by rw [fileSetup_eq c hc o s b hr]⟩
  | _ => simp [fileSetup, writeTemplate, hr] at h

theorem setup_installs_render_synology (c : FwConsts) (hc : RestartsBy c) (o : Obj) (s : Sys)
    (h : (synSetup c o s).1 = true) :
    ∃ b, renderFw c o = .ok b ∧ (synSetup c o s).2.2 =
      restartNow { s with files := aset (aset s.files o.path b) (synInfoPath o.path) b!"enable=\"yes\"" } := by
  cases hr : renderFw c o with
  | ok b => exact ⟨b, rfl, by simp [synSetup, writeTemplate_eq c o s b hr, hc _]⟩
  | _ => simp [synSetup, writeTemplate, hr] at h

theorem setup_installs_render_ubios (c : FwConsts) (o : Obj) (s : Sys) (h : (ubSetup c o s).1 = true) :
    ∃ b, renderFw c o = .ok b ∧ (ubSetup c o s).2.2 = restartNow { s with files := aset s.files o.path b } := by
  cases hr : renderFw c o with
  | ok b =>
    rw [ubSetup, writeTemplate_eq c o s b hr] at h ⊢
    exact ⟨b, rfl, killDNSMasq_ok _ h⟩
  | _ => simp [ubSetup, writeTemplate, hr] at h

theorem setup_installs_render_openwrt (c : FwConsts) (hc : RestartsBy c) (o : Obj) (s : Sys)
    (h : (owFinish c o s).1 = true) :
    ∃ b, renderFw c o = .ok b ∧ aget (owFinish c o s).2.2.files o.path = some b ∧
      (owFinish c o s).2.2.view = some (snapOf (owFinish c o s).2.2) := by
  cases hr : renderFw c o with
  | ok b =>
    refine ⟨b, rfl, ?_⟩
    rw [owFinish_eq c o s b hr] at h ⊢
    cases hip : uciGet s kLanIP with
    | none => rw [hip] at h; cases h
    | some ip =>
      dsimp only
      rw [hc]
      refine ⟨?_, rfl⟩
      -- ensureDHCPOption touches uci only
      rw [restartNow_files]
      split <;> exact (aget_aset ..).trans (if_pos rfl)
  | _ => simp [owFinish, writeTemplate, hr] at h

/-- New; Configure; Setup; Restore with the regenerated constants of `fw`: whether all of them
succeeded, and the state left -/
def cycle (fw : Fw) (cfg : Cfg) (s : Sys) : Option (Bool × Sys) :=
  let c := constsOf fw
  match new c fw s with
  | none => none
  | some o =>
    let a := configure c names vars fw o cfg s
    let b := setup c names vars fw a.2.1 a.2.2.2
    let d := restore c fw b.2.1 b.2.2
    some (a.1 && b.1 && d.1, d.2.2)

/-- RESTORE_UNDOES for a firmware with a drop-in file, `s` being the state Restore STARTS from: after a successful
Restore the drop-in is gone, no other file changed, nvram is as it was and dnsmasq was restarted after the removal.
The theorems that conclude it are about EVERY `s` and EVERY Router value, hence cover the state any Setup left, also
after a crash (`unclean_restart`) — not the other files a Setup created: synology's `.info` file stays behind. -/
def DropinGone (o : Obj) (s s' : Sys) : Prop :=
  aget s'.files o.path = none ∧ (∀ p, p ≠ o.path → aget s'.files p = aget s.files p) ∧
  s'.nvL = s.nvL ∧ s'.view = some (snapOf s')

/-- the step all drop-in firmwares share: the file is deleted, then dnsmasq restarts -/
theorem DropinGone.of_adel {o : Obj} {s t : Sys} (hf : t.files = adel s.files o.path) (hn : t.nvL = s.nvL) :
    DropinGone o s (restartNow t) :=
  ⟨by rw [restartNow_files, hf, aget_adel, if_pos rfl],
   fun p hp => by rw [restartNow_files, hf, aget_adel, if_neg (Ne.symm hp)], hn, restartNow_view t⟩

theorem restore_undoes_edgeos_firewalla (c : FwConsts) (hc : RestartsBy c) (fw : Fw) (hfw : fw = .edgeos ∨ fw = .firewalla)
    (o : Obj) (s : Sys) (h : (restore c fw o s).1 = true) :
    DropinGone o s (restore c fw o s).2.2 ∧ (restore c fw o s).2.2.uciC = s.uciC := by
  rcases hfw with rfl | rfl <;>
  · unfold restore removeStrict at h ⊢
    cases hf : aget s.files o.path <;> simp only [hf, hc] at h ⊢
    · cases h
    · exact ⟨.of_adel rfl rfl, rfl⟩

theorem restore_undoes_ubios (c : FwConsts) (o : Obj) (s : Sys) (h : (restore c .ubios o s).1 = true) :
    DropinGone o s (restore c .ubios o s).2.2 ∧ (restore c .ubios o s).2.2.uciC = s.uciC := by
  unfold restore removeStrict at h ⊢
  cases hf : aget s.files o.path <;> simp only [hf] at h ⊢
  · cases h
  · rw [killDNSMasq_ok _ h]
    exact ⟨.of_adel rfl rfl, rfl⟩

theorem restore_undoes_synology (c : FwConsts) (hc : RestartsBy c) (o : Obj) (hd : o.disabled = false) (s : Sys) :
    (restore c .synology o s).1 = true ∧
    DropinGone o s (restore c .synology o s).2.2 ∧ (restore c .synology o s).2.2.uciC = s.uciC := by
  unfold restore
  simp only [hd, hc]
  exact ⟨rfl, .of_adel rfl rfl, rfl⟩

/-- **start that fails half-way, then stop (edgeos, firewalla)**: whatever the service commands do
during Setup (`c'.cmds` is any list: e.g. the restart fails), the drop-in written by it is removed
by the Restore of the following stop, no other file changes, and dnsmasq is restarted after the
removal. -/
theorem restore_after_any_setup_file (c c' : FwConsts) (hc : RestartsBy c) (fw : Fw) (hfw : fw = .edgeos ∨ fw = .firewalla)
    (o : Obj) (s : Sys) (b : Bytes) (hw : renderFw c' o = .ok b) :
    let a := fileSetup c' o s
    let r := restore c fw a.2.1 a.2.2
    r.1 = true ∧ DropinGone o s r.2.2 ∧ r.2.2.uciC = s.uciC := by
  intro a r
  -- Setup wrote the drop-in (`s1`); its commands, whatever they are, left the stores alone
  let s1 : Sys := { s with files := aset s.files o.path b }
  have hsame := runCmds_same c'.cmds s1
  have ha : a = ((runCmds c'.cmds s1).1, o, (runCmds c'.cmds s1).2) := by
    simp [a, s1, fileSetup, writeTemplate_eq c' o s b hw]
  generalize (runCmds c'.cmds s1).2 = t at ha hsame
  have hfiles : t.files = aset s.files o.path b := hsame.files
  have hr : r = (true, o, restartNow { t with files := adel t.files o.path }) := by
    simp only [r, ha]
    rcases hfw with rfl | rfl <;> simp [restore, removeStrict, hfiles, hc _]
  rw [hr]
  exact ⟨rfl, .of_adel (by rw [hfiles, adel_aset_self]) hsame.nvL, hsame.uciC⟩

theorem restore_undoes_openwrt_dropin (c : FwConsts) (hc : RestartsBy c) (o : Obj) (s : Sys)
    (h : (owRestore c o s).1 = true) : DropinGone o s (owRestore c o s).2.2 := by
  obtain ⟨s1, ⟨hfiles, hnv, -⟩, he⟩ := owRestore_eq c o s
  rw [he] at h ⊢
  dsimp only at h ⊢
  split at h
  · cases h
  · simp only [hc, uciDelList_eq]
    exact .of_adel (congrArg (adel · o.path) hfiles) hnv

/-- **RESTORE_UNDOES (openwrt, uci store, non-cache mode), partial**: for EVERY pre-existing staged
uci store — any forwarder list as uci holds it (non-empty values without white space), any non-empty
DHCP option list of the user's own — and whatever the service commands return, after Setup followed by
Restore the committed store is, key by key, what the user had: the forwarders NextDNS removed are
back, the DHCP option it added is gone.  `_partial`: `6,<router ip>` must not be a SUBSTRING of the user's DHCP
options as `uci get` prints them (ip 192.168.1.1 also excludes `6,192.168.1.10`), and the drop-in must render
(`hrender`); with that option in the list: recorded finding `restore_undoes_openwrt_dhcp_option_violated`.
Equal as a MAP, not as a list: the re-added forwarders move to the end (example in NV.Lemmas.RouterUci). -/
theorem restore_undoes_openwrt_uci_partial (c : FwConsts) (o : Obj) (s : Sys) (ip : Bytes)
    (hcache : o.cache = false) (hip : uciGet s kLanIP = some ip)
    (hopt : ∀ ds, aget s.uciS kDhcpOpt = some ds →
      ds ≠ [] ∧ containsSub (b!"6," ++ ip) (trimSpace (joinSp ds)) = false)
    (hfwd : ∀ vs, aget s.uciS kServer = some vs → vs ≠ [] ∧ ∀ v ∈ vs, v ≠ [] ∧ ∀ ch ∈ v, isWs ch = false)
    (hrender : (writeTemplate c o s).1 = true) :
    let r1 := owSetupDNSMasq c o s
    let r2 := owRestore c r1.2.1 r1.2.2
    ∀ k, aget r2.2.2.uciC k = aget s.uciS k := by
  intro r1 r2 k
  -- `ip` is what `uci get` printed, a trimmed text: then `6,<ip>` not being a substring of the options
  -- as `uci get` prints them implies that it is not in the list
  obtain ⟨vs, -, rfl⟩ := uciGet_eq_some.1 hip
  exact (ow_setup_restore_delList c o s _ hcache hip hfwd hrender k).trans
    (aget_delList_of_not_mem _ fun ds hd => ⟨(hopt ds hd).1,
      not_mem_of_containsSub_eq_false b!"6," (by decide) (.of_forall (by decide)) _ ds (hopt ds hd).2⟩)

/-- RESTORE_UNDOES is FALSE for openwrt's uci store when the user already had DHCP option
`6,<router ip>`: Setup adds nothing, Restore deletes the user's entry (recorded finding).  With another
option in the list the store is restored (second component). -/
theorem restore_undoes_openwrt_dhcp_option_violated :
    let s0 (opts : List Bytes) : Sys :=
      let u : UStore := [(kLanIP, [b!"192.168.1.1"]), (kDhcpOpt, opts)]
      { files := [(b!"/etc/os-release", b!"ID=\"openwrt\"\n")], uciS := u, uciC := u }
    let cfg : Cfg := { listens := [b!"localhost:53"], cacheSize := b!"0" }
    (cycle .openwrt cfg (s0 [b!"3,192.168.1.1", b!"6,192.168.1.1"])).map (fun r => (r.1, aget r.2.uciC kDhcpOpt))
      = some (true, some [b!"3,192.168.1.1"]) ∧
    (cycle .openwrt cfg (s0 [b!"3,192.168.1.1"])).map (fun r => (r.1, aget r.2.uciC kDhcpOpt))
      = some (true, some [b!"3,192.168.1.1"]) := by decide +kernel

/-- the ddwrt theorems over variable constants: all that matters of the nvram lists is that every name
Setup writes (`pairs`) is among the names it saves, and that no name contains `=` -/
theorem dd_restore_after_setup (c c' : FwConsts) (ns : List Bytes) (vs : List (Bytes × Bool)) (o : Obj) (s : Sys)
    (rendered : Bytes) (pairs : List (Bytes × Bytes))
    (hcmd : ∀ s, runCmds c.cmds s = (true, restartNow { s with view := none }))
    (hr' : renderFw c' o = .ok rendered)
    (hvars : (vs.map fun v => if v.2 then v.1 ++ rendered else v.1) = pairs.map fun p => p.1 ++ 61 :: p.2)
    (hpne : pairs ≠ []) (hkeys : ∀ k ∈ pairs.map (·.1), k ∈ ns) (hnames : ∀ n ∈ ns, (61 : UInt8) ∉ n) :
    let a := ddSetup c' ns vs o s
    let r := ddRestore c a.2.1 a.2.2
    r.1 = true ∧ (∀ k, nvGet r.2.2 k = nvGet s k) ∧ r.2.2.nvC = r.2.2.nvL ∧ r.2.2.files = s.files ∧
    r.2.2.uciC = s.uciC ∧ r.2.2.view = some (snapOf r.2.2) := by
  intro a r
  have hne : (vs.map fun v => if v.2 then v.1 ++ rendered else v.1).isEmpty = false := by
    rw [hvars]; cases pairs with
    | nil => exact absurd rfl hpne
    | cons _ _ => rfl
  have hsaved : getNVRAM ns s = (ns.map fun n => (n, nvGet s n)).map fun p => p.1 ++ 61 :: p.2 := by
    simp [getNVRAM, List.map_map, Function.comp_def]
  have hnk : ∀ p ∈ (ns.map fun n => (n, nvGet s n)), (61 : UInt8) ∉ p.1 := List.forall_mem_map.mpr hnames
  have hnames_ne : (getNVRAM ns s).isEmpty = false := by
    cases pairs with
    | nil => exact absurd rfl hpne
    | cons p _ =>
      cases ns with
      | nil => simpa using hkeys p.1 (by simp)
      | cons _ _ => rfl
  -- the state Setup leaves: the NextDNS values written and committed, then whatever `c'.cmds` did
  let s1 : Sys := nvCommit { s with nvL := setAll pairs s.nvL }
  have hsetup : a = ((runCmds c'.cmds s1).1, { o with savedParams := getNVRAM ns s }, (runCmds c'.cmds s1).2) := by
    show ddSetup c' ns vs o s = _
    unfold ddSetup
    simp only [hr', setNVRAM, hne]
    rw [hvars, setNVRAMLoop_pairs pairs (fun p hp => hnames _ (hkeys _ (List.mem_map_of_mem hp))) s]
    simp [s1]
  have hsame := runCmds_same c'.cmds s1
  let s2 : Sys := (runCmds c'.cmds s1).2
  have hr2 : r = (true, { o with savedParams := getNVRAM ns s },
      restartNow { (nvCommit { s2 with nvL := setAll (ns.map fun n => (n, nvGet s n)) s2.nvL }) with view := none }) := by
    show ddRestore c a.2.1 a.2.2 = _
    rw [hsetup]
    simp only [ddRestore, setNVRAM, hnames_ne]
    rw [hsaved, setNVRAMLoop_pairs _ hnk]
    simp [hcmd, s2]
  rw [hr2]
  have hn2 : s2.nvL = setAll pairs s.nvL := by
    show (runCmds c'.cmds s1).2.nvL = _
    rw [hsame.nvL]; rfl
  -- `nvCommit` writes `nvC` and `restartNow` the view: files and uci are those of `s2`
  refine ⟨rfl, fun k => ?_, rfl, hsame.files, hsame.uciC, restartNow_view _⟩
  simp only [nvGet, nvCommit, restartNow, hn2]
  -- a saved name gets its old value back; any other was not written either, `pairs` being among the saved
  by_cases hk : k ∈ ns
  · rw [aget_setAll_fun ns (fun n => (aget s.nvL n).getD []) _ k hk]; simp
  · rw [aget_setAll_notin _ _ k (by simpa [List.map_map, Function.comp_def] using hk)]
    rw [aget_setAll_notin pairs _ k (fun hm => hk (hkeys k hm))]

theorem ddwrt_names_have_no_eq : ∀ n ∈ Gen.Router.ddwrtSaveNames, (61 : UInt8) ∉ n := by decide +kernel

/-- **start that fails half-way, then stop (ddwrt)**: whatever the service commands do during
Setup — `c'.cmds` is ANY command list, in particular the real one with one command failing
(`faultConsts`: `restore_after_failed_setup_ddwrt`) — the nvram values were saved before anything was
written, so the Restore of the stop that follows re-installs every previous value, commits, and starts
dnsmasq after the last change. run.go only logs a Setup error and keeps the daemon running, so this is
the history `start (restart of dnsmasq fails); …; stop`. -/
theorem restore_after_any_setup_ddwrt (c' : FwConsts) (o : Obj) (s : Sys) (rendered : Bytes)
    (hr' : renderFw c' o = .ok rendered) :
    let a := ddSetup c' names vars o s
    let r := ddRestore Gen.Router.ddwrt a.2.1 a.2.2
    r.1 = true ∧ (∀ k, nvGet r.2.2 k = nvGet s k) ∧ r.2.2.nvC = r.2.2.nvL ∧ r.2.2.files = s.files ∧
    r.2.2.uciC = s.uciC ∧ r.2.2.view = some (snapOf r.2.2) := by
  -- the two nvram lists come after the eight firmwares
  obtain ⟨-, -, -, -, -, -, -, -, hnames, hvars, -⟩ := gen_consts_agree
  -- `Hand.ddwrtSetVars` cut at `=`, `rendered` where the flag is set: the closing `rw [hvars]; rfl` checks that
  refine dd_restore_after_setup Gen.Router.ddwrt c' names vars o s rendered
    [(b!"dns_dnsmasq", b!"1"), (b!"dnsmasq_options", rendered), (b!"dns_crypt", b!"0"),
      (b!"dnssec", b!"0"), (b!"dnsmasq_no_dns_rebind", b!"0"), (b!"dnsmasq_add_mac", b!"0")]
    ddwrt_cmds hr' ?_ (List.cons_ne_nil _ _) ?_ ddwrt_names_have_no_eq
  · show (Gen.Router.ddwrtSetVars.map _) = _
    rw [hvars]; rfl
  · show ∀ k ∈ _, k ∈ Gen.Router.ddwrtSaveNames
    rw [hnames]; simp only [List.map_cons, List.map_nil]; decide +kernel

theorem ddSetup_ok (c : FwConsts) (ns : List Bytes) (vs : List (Bytes × Bool)) (o : Obj) (s : Sys)
    (h : (ddSetup c ns vs o s).1 = true) : ∃ b, renderFw c o = .ok b := by
  unfold ddSetup at h
  cases hr : renderFw c o with
  | ok b => exact ⟨b, rfl⟩
  | _ => simp [hr] at h

/-- RESTORE_UNDOES (ddwrt): for EVERY pre-existing nvram store (any values, multi-line, unset), after
setupDNSMasq (run by Setup, or by Configure in cache mode) and Restore every nvram variable reads as
before (unset ≡ empty), the values are committed, no file changed and dnsmasq was started after the
last change.  (True of the repaired internal.NVRAM; the `nvram show` parsing it replaces does not have
the property: `nvram_show_parsing_refuted`.) -/
theorem restore_undoes_ddwrt (o : Obj) (s : Sys)
    (h : (ddSetup Gen.Router.ddwrt names vars o s).1 = true) :
    let a := ddSetup Gen.Router.ddwrt names vars o s
    let r := ddRestore Gen.Router.ddwrt a.2.1 a.2.2
    r.1 = true ∧ (∀ k, nvGet r.2.2 k = nvGet s k) ∧ r.2.2.nvC = r.2.2.nvL ∧ r.2.2.files = s.files ∧
    r.2.2.uciC = s.uciC ∧ r.2.2.view = some (snapOf r.2.2) := by
  obtain ⟨rendered, hr⟩ := ddSetup_ok _ _ _ _ _ h
  exact restore_after_any_setup_ddwrt Gen.Router.ddwrt o s rendered hr

/-- the hypothesis of `restore_undoes_ddwrt` is satisfiable: a store with a multi-line value, an unset
variable and a foreign variable whose value contains a line `dnssec=1` -/
def ddWitness : Sys :=
  { nvL := [(b!"dnsmasq_options", b!"cache-size=500\nlog-queries\n"), (b!"rc_startup", b!"echo\ndnssec=1\n"), (b!"dns_crypt", b!"1")] }

example : (ddSetup Gen.Router.ddwrt names vars {} ddWitness).1 = true := by decide +kernel

theorem renderFw_faultConsts (c : FwConsts) (k : Nat) (o : Obj) : renderFw (faultConsts c k) o = renderFw c o := by
  unfold faultConsts
  split <;> rfl

/-- `restore_after_any_setup_ddwrt` when the `k`-th service command of the regenerated restart sequence
fails (`stopservice dnsmasq` for k = 1, `startservice dnsmasq` for k = 2), for every pre-existing state. -/
theorem restore_after_failed_setup_ddwrt (k : Nat) (o : Obj) (s : Sys) (rendered : Bytes)
    (hr : renderFw Gen.Router.ddwrt o = .ok rendered) :
    let a := ddSetup (faultConsts Gen.Router.ddwrt k) names vars o s
    let r := ddRestore Gen.Router.ddwrt a.2.1 a.2.2
    r.1 = true ∧ (∀ k, nvGet r.2.2 k = nvGet s k) ∧ r.2.2.nvC = r.2.2.nvL ∧ r.2.2.files = s.files ∧
    r.2.2.uciC = s.uciC ∧ r.2.2.view = some (snapOf r.2.2) := by
  refine restore_after_any_setup_ddwrt (faultConsts Gen.Router.ddwrt k) o s rendered ?_
  rw [← hr]
  exact renderFw_faultConsts _ _ _

/-- the fault is real in the model: from `ddWitness`, with the first or the second command failing Setup
reports an error, and after the second dnsmasq is left stopped -/
example : (ddSetup (faultConsts Gen.Router.ddwrt 1) names vars {} ddWitness).1 = false ∧
    (ddSetup (faultConsts Gen.Router.ddwrt 2) names vars {} ddWitness).1 = false ∧
    (ddSetup (faultConsts Gen.Router.ddwrt 2) names vars {} ddWitness).2.2.view = none := by decide +kernel

/-- the `nvram show` parsing that internal.NVRAM used before the repair does NOT have the property:
on `ddWitness` the multi-line value is cut to its first line, the line `dnssec=1` of rc_startup is
taken for the variable dnssec, and the unset variables are not recorded (so they are not restored) -/
theorem nvram_show_parsing_refuted :
    getNVRAMShow names ddWitness = [b!"dnsmasq_options=cache-size=500", b!"dnssec=1", b!"dns_crypt=1"] ∧
    getNVRAM names ddWitness = [b!"dns_dnsmasq=", b!"dnsmasq_options=cache-size=500\nlog-queries\n", b!"dns_crypt=1",
      b!"dnssec=", b!"dnsmasq_no_dns_rebind=", b!"dnsmasq_add_mac="] := by decide +kernel

/-! merlin's file is the postconf script, which may hold the user's own text.  New() keeps
`readPostConf` of the existing script (bufio.Scanner lines, everything up to the last `## NextDNS END`
line dropped, leading newlines dropped, every line newline-terminated); Restore writes that back, or
removes the file when nothing is kept. -/

theorem new_merlin (c : FwConsts) (s : Sys) (o : Obj) (h : new c .merlin s = some o) :
    o = { path := c.path, postConf := readPostConf ((aget s.files c.path).getD []) } := by
  unfold new at h
  split at h
  · cases h
  · exact (Option.some.inj h).symm

theorem restore_merlin (c : FwConsts) (hc : RestartsBy c) (o : Obj) (s : Sys) :
    let r := restore c .merlin o s
    r.1 = true ∧ aget r.2.2.files o.path = (if o.postConf ≠ [] then some o.postConf else none) ∧
    (∀ p, p ≠ o.path → aget r.2.2.files p = aget s.files p) ∧ r.2.2.nvL = s.nvL ∧ r.2.2.uciC = s.uciC ∧
    r.2.2.view = some (snapOf r.2.2) := by
  simp only [restore, hc]
  split <;>
    exact ⟨trivial, by simp [restartNow_files], fun p hp => by simp [restartNow_files, Ne.symm hp], rfl, rfl,
      restartNow_view _⟩

/-- RESTORE_UNDOES (merlin, full cycle, EVERY pre-existing state): after New; Configure; Setup;
Restore the postconf script is exactly `readPostConf` of what was there before (absent when that is
empty), no other file changed, and dnsmasq was restarted after the script was written back. -/
theorem restore_undoes_merlin (cfg : Cfg) (s s' : Sys) (ok : Bool) (h : cycle .merlin cfg s = some (ok, s')) :
    let path := Gen.Router.merlin.path
    let kept := readPostConf ((aget s.files path).getD [])
    aget s'.files path = (if kept ≠ [] then some kept else none) ∧
    (∀ p, p ≠ path → aget s'.files p = aget s.files p) ∧ s'.view = some (snapOf s') := by
  unfold cycle at h
  simp only [constsOf] at h
  cases hn : new Gen.Router.merlin .merlin s with
  | none => rw [hn] at h; cases h
  | some o =>
    rw [hn] at h
    cases new_merlin _ _ _ hn
    simp only [configure, setup, Option.some.injEq, Prod.mk.injEq, fileSetup_obj] at h
    obtain ⟨-, rfl⟩ := h
    obtain ⟨-, hscript, hothers, _nvL, _uciC, hview⟩ := restore_merlin Gen.Router.merlin restartsBy_merlin
      { path := Gen.Router.merlin.path, report := cfg.report, cache := cfg.cacheOn,
        postConf := readPostConf ((aget s.files Gen.Router.merlin.path).getD []) }
      (fileSetup Gen.Router.merlin
        { path := Gen.Router.merlin.path, report := cfg.report, cache := cfg.cacheOn,
          postConf := readPostConf ((aget s.files Gen.Router.merlin.path).getD []) } s).2.2
    exact ⟨hscript, fun p hp => (hothers p hp).trans (fileSetup_files _ _ _ p hp), hview⟩

/-- …hence byte-for-byte when the script is in the normal form `readPostConf` produces (LF line
ends, final newline, no leading blank line, no marker line) — `_partial`: the full statement
"previous script content is back" is false for other scripts (`restore_not_bytewise_merlin`). -/
theorem restore_undoes_merlin_partial (cfg : Cfg) (s s' : Sys) (ok : Bool) (orig : Bytes)
    (ho : aget s.files Gen.Router.merlin.path = some orig) (hn : readPostConf orig = orig) (hne : orig ≠ [])
    (h : cycle .merlin cfg s = some (ok, s')) :
    aget s'.files Gen.Router.merlin.path = some orig := by
  have := (restore_undoes_merlin cfg s s' ok h).1
  simp only [ho, Option.getD_some, hn] at this
  simpa [hne] using this

example : readPostConf b!"#!/bin/sh\npc_append \"log-queries\" $1\n" = b!"#!/bin/sh\npc_append \"log-queries\" $1\n" := by
  decide +kernel

/-- the script is NOT restored byte-for-byte in general: a script without final newline gets one, CR
line ends are dropped, text above a `## NextDNS END` line is dropped (that is how NextDNS's own
head is recognised after an unclean stop), a script of blank lines is removed -/
theorem restore_not_bytewise_merlin :
    readPostConf b!"#!/bin/sh\necho hi" = b!"#!/bin/sh\necho hi\n" ∧
    readPostConf b!"a\r\nb\r\n" = b!"a\nb\n" ∧
    readPostConf b!"mine\n## NextDNS END\nrest\n" = b!"rest\n" ∧
    readPostConf b!"\n\n" = [] := by decide +kernel

/-- New; Configure; Setup; (crash: the Router value is lost); New; Configure; Setup — the Router
value and the state on which Restore then runs -/
def afterCrash (fw : Fw) (cfg : Cfg) (s : Sys) : Option (Obj × Sys) :=
  let c := constsOf fw
  match new c fw s with
  | none => none
  | some o1 =>
    let a := configure c names vars fw o1 cfg s
    let b := setup c names vars fw a.2.1 a.2.2.2
    match new c fw b.2.2 with
    | none => none
    | some o2 =>
      let a2 := configure c names vars fw o2 cfg b.2.2
      let b2 := setup c names vars fw a2.2.1 a2.2.2.2
      some (b2.2.1, b2.2.2)

/-- UNCLEAN_RESTART for the drop-in FILE of openwrt, edgeos, synology, ubios, firewalla: a successful Restore
removes it and restarts dnsmasq afterwards.  Of openwrt's uci store after a crash this says nothing, and no theorem
does.  The history `_h` only names the case the property speaks of; it is not used: removing the drop-in depends on
nothing that Setup saved (see `DropinGone`). -/
theorem unclean_restart (fw : Fw) (hfw : fw ∈ [Fw.openwrt, .edgeos, .synology, .ubios, .firewalla])
    (cfg : Cfg) (s : Sys) (o1 : Obj) (s1 : Sys) (_h : afterCrash fw cfg s = some (o1, s1))
    (hsyn : fw = .synology → o1.disabled = false)
    (hok : (restore (constsOf fw) fw o1 s1).1 = true) :
    DropinGone o1 s1 (restore (constsOf fw) fw o1 s1).2.2 := by
  simp only [List.mem_cons, List.not_mem_nil, or_false] at hfw
  rcases hfw with rfl | rfl | rfl | rfl | rfl
  · exact restore_undoes_openwrt_dropin _ restartsBy_openwrt o1 s1 hok
  · exact (restore_undoes_edgeos_firewalla _ restartsBy_edgeos .edgeos (Or.inl rfl) o1 s1 hok).1
  · exact (restore_undoes_synology _ restartsBy_synology o1 (hsyn rfl) s1).2.1
  · exact (restore_undoes_ubios _ o1 s1 hok).1
  · exact (restore_undoes_edgeos_firewalla _ restartsBy_firewalla .firewalla (Or.inr rfl) o1 s1 hok).1

/-- non-vacuity: the history exists and Restore succeeds on it (edgeos, cache off) -/
example : (afterCrash .edgeos (rowCfg ⟨.edgeos, false, true, 0, true⟩) (rowState ⟨.edgeos, false, true, 0, true⟩)).map
    (fun p => (restore (constsOf .edgeos) .edgeos p.1 p.2).1) = some true := by decide +kernel

/-- UNCLEAN_RESTART is FALSE for ddwrt (recorded finding): after Setup; crash; New; Configure; Setup;
Restore the nvram variable dnsmasq_options still holds the text rendered by NextDNS, forwarding to
127.0.0.1#5342, and dnsmasq was restarted with it: the second Setup saved NextDNS's own values. -/
theorem unclean_restart_ddwrt_violated :
    (afterCrash .ddwrt (rowCfg ⟨.ddwrt, false, true, 0, true⟩) (rowState ⟨.ddwrt, false, true, 0, true⟩)).map
      (fun p =>
        let r := restore (constsOf .ddwrt) .ddwrt p.1 p.2
        (r.1, containsSub b!"server=127.0.0.1#5342" (nvGet r.2.2 b!"dnsmasq_options"), decide (r.2.2.view = some (snapOf r.2.2))))
    = some (true, true, true) := by decide +kernel

def cpc : Bytes := b!"CurrentPostConf"

/-- the tokens of the merlin template before its last one, `{{.CurrentPostConf}}` -/
def merlinPre : List Tok := ((lex Gen.Router.merlin.tmpl).getD []).dropLast

/-- the script head NextDNS renders in front of the user's script: what the tokens before
`{{.CurrentPostConf}}` print -/
def merlinHead (report cache : Bool) : Bytes :=
  outOf (runToks (envOf Gen.Router.merlin { report := report, cache := cache }) merlinPre ([], []))

/-- tie: all that the proofs below use of the regenerated merlin template, in one evaluation.  That the
head ends with the line `## NextDNS END` is tested as a suffix of the bytes: evaluating `splitLines` is
far dearer than everything else here. -/
theorem merlin_template_shape :
    lex Gen.Router.merlin.tmpl = some (merlinPre ++ [.field cpc]) ∧
    (merlinPre ++ [Tok.field cpc]).any (· = .bad) = false ∧ balanced (merlinPre ++ [.field cpc]) [] = true ∧
    merlinPre.all (fun t => match tokField t with
      | some n => n = b!"CacheEnabled" || n = b!"ClientReporting" | none => true) = true ∧
    (∀ r c : Bool, (runToks (envOf Gen.Router.merlin { report := r, cache := c }) merlinPre ([], [])).map (·.1) = some []) ∧
    (match merlinPre.getLast? with
      | some (.text d) => (10 :: endMarker ++ [10]).isSuffixOf d
      | _ => false) = true := by decide +kernel

theorem merlinPre_run (r c : Bool) :
    runToks (envOf Gen.Router.merlin { report := r, cache := c }) merlinPre ([], []) = some ([], merlinHead r c) := by
  obtain ⟨_lex, _bad, _bal, _flags, hrun, _last⟩ := merlin_template_shape
  exact eq_some_outOf (hrun r c)

theorem merlinHead_end (r c : Bool) : (10 :: endMarker ++ [10]).isSuffixOf (merlinHead r c) = true := by
  obtain ⟨_lex, _bad, _bal, _flags, _run, hlast⟩ := merlin_template_shape
  have hx := merlinPre_run r c
  split at hlast
  · rename_i d hd
    obtain ⟨pre, hpre⟩ := List.getLast?_eq_some_iff.1 hd
    rw [hpre] at hx
    rw [List.isSuffixOf_iff_suffix] at hlast ⊢
    exact hlast.trans (runToks_text_last _ pre d ([], []) [] (merlinHead r c) hx rfl)
  · cases hlast

/-- merlin's script is the head, which depends on the two flags only, followed by what New() kept -/
theorem merlin_render (o : Obj) : renderFw Gen.Router.merlin o = .ok (merlinHead o.report o.cache ++ o.postConf) := by
  obtain ⟨hlex, hbad, hbal, hflags, _run, _last⟩ := merlin_template_shape
  have hagree : ∀ t ∈ merlinPre, ∀ n, tokField t = some n →
      envOf Gen.Router.merlin o n = envOf Gen.Router.merlin { report := o.report, cache := o.cache } n := by
    intro t ht n hn
    have := List.all_eq_true.mp hflags t ht
    simp only [hn, Bool.or_eq_true, decide_eq_true_eq] at this
    rcases this with rfl | rfl <;> rfl
  refine render_pre_field _ merlinPre cpc _ _ (.str o.postConf) hlex hbad hbal ?_ rfl
  rw [runToks_congr _ _ _ _ hagree]
  exact merlinPre_run o.report o.cache

/-- UNCLEAN_RESTART (merlin, EVERY pre-existing script): after Setup; crash; New; Configure; Setup;
Restore the postconf script is `readPostConf (readPostConf original)` (absent when empty) — a function
of the user's original script only: nothing rendered by NextDNS is left — no other file changed and
dnsmasq was restarted after the script was written back. -/
theorem unclean_restart_merlin (cfg : Cfg) (s : Sys) (o1 : Obj) (s1 : Sys)
    (h : afterCrash .merlin cfg s = some (o1, s1)) :
    let path := Gen.Router.merlin.path
    let kept := readPostConf (readPostConf ((aget s.files path).getD []))
    let r := restore (constsOf .merlin) .merlin o1 s1
    r.1 = true ∧ aget r.2.2.files path = (if kept ≠ [] then some kept else none) ∧
    (∀ p, p ≠ path → aget r.2.2.files p = aget s.files p) ∧ r.2.2.view = some (snapOf r.2.2) := by
  -- nothing below depends on the constants beyond these three facts: `c` stands for them from here on,
  -- which also keeps the large literals out of the terms the kernel has to compare
  have hc : RestartsBy (constsOf .merlin) := restartsBy_merlin
  have hset : ∀ o s, fileSetup (constsOf .merlin) o s =
      (true, o, restartNow { s with files := aset s.files o.path (merlinHead o.report o.cache ++ o.postConf) }) :=
    fun o s => fileSetup_eq _ hc o s _ (merlin_render o)
  have hp : Gen.Router.merlin.path = (constsOf .merlin).path := rfl
  unfold afterCrash at h
  rw [hp]
  generalize constsOf .merlin = c at h hc hset ⊢
  dsimp only at h
  split at h
  · cases h
  · rename_i o hn1
    cases new_merlin _ _ _ hn1
    simp only [configure, setup, hset] at h
    generalize hs2 : restartNow _ = s2 at h
    split at h
    · cases h
    · rename_i o2 hn2
      cases new_merlin _ _ _ hn2
      simp only [Option.some.injEq, Prod.mk.injEq] at h
      obtain ⟨ho1, hs1⟩ := h
      -- the second New reads the script NextDNS wrote and drops the head
      have hkept : readPostConf ((aget s2.files c.path).getD []) =
          readPostConf (readPostConf ((aget s.files c.path).getD [])) := by
        rw [← hs2, restartNow_files, aget_aset, if_pos rfl, Option.getD_some]
        exact readPostConf_after_marker _ _ (merlinHead_end cfg.report cfg.cacheOn)
      rw [hkept] at ho1
      obtain ⟨hok, hscript, hothers, _nvL, _uciC, hview⟩ := restore_merlin c hc o1 s1
      subst ho1 hs1
      -- both Setups wrote the script only
      exact ⟨hok, hscript, fun p hp => (hothers p hp).trans
        (by rw [← hs2]; simp only [restartNow_files, aget_aset, if_neg (Ne.symm hp)]), hview⟩

/-- non-vacuity: the unclean history exists on a merlin router with a user script -/
example : (afterCrash .merlin (rowCfg ⟨.merlin, true, true, 0, true⟩) (rowState ⟨.merlin, true, true, 0, true⟩)).isSome = true := by
  decide +kernel

section Wiring
open NV.SvcStart NV.SvcLife

def undoOf : String → String
  | "r.Setup" => "r.Restore"
  | "activate" => "deactivate"
  | _ => "?"

/-- the value of a registration condition of run() under a configuration; conditions the model does
not know make the registration unknown (`none`) -/
def condVal (setupRouter autoActivate : Bool) : String → Option Bool
  | "c.SetupRouter" => some setupRouter
  | "c.AutoActivate" => some autoActivate
  | "" => some true
  | _ => none

/-- the calls of one hook round under a configuration, from the REGENERATED registration table -/
def hookCalls (setupRouter autoActivate : Bool) (list : String) : Option (List String) :=
  Gen.Hooks.wiring.foldr (fun w acc =>
    if w.2.1 != list then acc else
    match condVal setupRouter autoActivate w.1, acc with
    | some true, some cs => some (w.2.2 ++ cs)
    | some false, some cs => some cs
    | _, _ => none) (some [])

def upCalls (sr aa : Bool) : List String :=
  (if sr then ["r.Setup"] else []) ++ (if aa then ["activate"] else [])

/-- for every configuration the shut-down round undoes exactly what the start-up round
did, in the same order: `r.Setup` ↔ `r.Restore` under `-setup-router`, `activate` ↔ `deactivate` under
`-auto-activate`, nothing else and nothing under another condition. -/
theorem gen_wiring_paired (sr aa : Bool) :
    hookCalls sr aa "OnStarted" = some (upCalls sr aa) ∧
    hookCalls sr aa "OnStopped" = some ((upCalls sr aa).map undoOf) := by
  revert sr aa
  decide +kernel

/-- the hook calls of a whole history of hook rounds -/
def expand (sr aa : Bool) (log : List Hook) : List String :=
  log.flatMap fun h => ((hookCalls sr aa (match h with | .up => "OnStarted" | .down => "OnStopped")).getD ["?"])

/-- `Start()` runs the `OnStarted` round itself — one loop over the list, not under `go`, not inside a function
literal — so the round is over when `Start()` returns, and a `Stop()` the run loop makes afterwards (`runLoopOps`) finds
everything `Setup` did (`NV.SvcLife.step`: the `up` entry is in the log when `.start` returns). -/
theorem gen_start_hooks_inline : Gen.Hooks.startHookRounds = 1 ∧ Gen.Hooks.startHookRoundsAsync = 0 := by decide

/-- **the daemon under its run loop, every configuration, every start outcome, every signal sequence**:
a run that started and received a stopping signal made exactly the start-up calls followed by their
undoing calls (router Restore after Setup, deactivate after activate); a run that never started made none;
only a run that is still serving has start-up calls not yet undone. -/
theorem run_undoes_setup (sr aa fg : Bool) (as : List Att) (sigs : List Sig) :
    ∃ s us, SvcLife.run SvcLife.init (runLoopOps fg as sigs) = some s ∧ hookCalls sr aa "OnStarted" = some us ∧
      expand sr aa s.log =
        (if svcStart as = .started then
           (if sigs.any (stopsOn fg) = true then us ++ us.map undoOf else us) else []) := by
  obtain ⟨s, hr, hl, _⟩ := NV.SvcLife.service_run_log' fg as sigs
  obtain ⟨hu, hd⟩ := gen_wiring_paired sr aa
  refine ⟨s, upCalls sr aa, hr, hu, ?_⟩
  rw [hl]
  by_cases h1 : svcStart as = .started
  · by_cases h2 : sigs.any (stopsOn fg) = true
    · simp [h1, h2, expand, hu, hd]
    · simp [h1, h2, expand, hu]
  · simp [h1, expand]

end Wiring

end NV.C20
