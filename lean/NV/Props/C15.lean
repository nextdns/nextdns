/-
  C15 — the query path is free of data races.

  * `gen_discipline_ok` : the table of ALL field accesses of mutex-owning structs in packages
    discovery, resolver/endpoint, resolver, arp, ndp — regenerated from the source on every run with
    the lock mode held at each access (CFG dataflow, callees analysed in the caller's state) —
    satisfies the discipline: every field is immutable after publication, or only accessed
    atomically, or written only under the write lock and read only under a lock.
  * `no_conflict` : on a sync.RWMutex, in every interleaving of any number of threads, the discipline excludes a race.
  * `lastmod_…` : the "configuration last modified" time of a profile URL that `DOH.updateLastMod` records after ANY
    interleaving of any number of handlers is the one every sequential order records — the newest; so a cached reply
    served afterwards is one a sequential order serves.
  Not carried by the model (partial): the Go memory model itself; instance identity of locks; the
  second half of the statement (replies linearizable) beyond the last-modified table: C01's concurrent harness only.
-/
import NV.Model.Lockset
import NV.Gen.Lockset
import NV.Lemmas.LastMod
import NV.Gen.LastMod
import NV.Gen.ReadOnly
namespace NV.C15
open NV.Lockset

/-- the extractor loaded and type-checked every package the table is drawn from: none is missing from it -/
theorem gen_extracted : Gen.Lockset.extracted = true := by decide

theorem fieldOk_congr (all : List Access) {a b : Access} (h : sameField a b = true) :
    fieldOk all b = fieldOk all a := by
  simp only [sameField, Bool.and_eq_true, beq_iff_eq] at h
  simp only [fieldOk, sameField, h.1, h.2]

/-- the first access of every run of consecutive accesses to one field, after the run of `h` -/
def heads (h : Access) : List Access → List Access
  | [] => []
  | b :: bs => if sameField h b then heads h bs else b :: heads b bs

theorem all_of_heads (all : List Access) : ∀ (as : List Access) (a : Access), fieldOk all a = true →
    (heads a as).all (fieldOk all) = true → as.all (fieldOk all) = true
  | [], _, _, _ => rfl
  | b :: bs, a, ha, hh => by
    rw [heads] at hh
    split at hh
    · next hs =>
      rw [List.all_cons, fieldOk_congr all hs, ha]
      exact all_of_heads all bs a ha hh
    · rw [List.all_cons, Bool.and_eq_true] at hh ⊢
      exact ⟨hh.1, all_of_heads all bs b hh.1 hh.2⟩

/-- it is enough to check one access of every run: the table comes in order of fields, so the kernel
compares each of its strings with a few dozen others instead of with all (in whatever order the
table comes, the check is sufficient for `disciplineOk`) -/
theorem disciplineOk_of_heads : ∀ (all : List Access),
    (match all with | [] => true | a :: as => fieldOk all a && (heads a as).all (fieldOk all)) = true →
    disciplineOk all = true
  | [], _ => rfl
  | a :: as, h => by
    rw [Bool.and_eq_true] at h
    rw [disciplineOk, List.all_cons, h.1]
    exact all_of_heads (a :: as) as a h.1 h.2

theorem gen_discipline_ok : disciplineOk Gen.Lockset.accesses = true :=
  disciplineOk_of_heads _ (by decide +kernel)

theorem rw_inv (m : RW) (h : RW.Reach m) : m.Inv := by
  induction h with
  | init => exact nofun
  | @step m m' o _ hs ih =>
    unfold RW.Inv at *
    cases o
    -- each operation is granted under a condition `hc`
    all_goals obtain ⟨hc, ⟨⟩⟩ := Option.ite_none_right_eq_some.1 hs
    case lock => exact fun _ => hc.2       -- granted only with no reader
    case unlock => exact nofun             -- leaves no writer
    case rlock => exact fun h => by simp [Option.isNone_iff_eq_none.1 hc] at h   -- granted only with no writer
    case runlock => exact fun h => by simp [ih h]   -- no reader before, none after

/-- a thread at a guarded write holds the write lock, and then no other thread holds the mutex in
any mode, so it cannot be at a guarded access -/
theorem writer_excludes (m : RW) (hinv : m.Inv) {t1 t2 : Nat} (hne : t1 ≠ t2) {a1 a2 : Access}
    (h1 : a1.guarded = true) (h2 : a2.guarded = true)
    (hm1 : m.modeOf t1 = a1.mode) (hm2 : m.modeOf t2 = a2.mode) : a1.kind ≠ .write := by
  intro hw
  have hw1 : m.modeOf t1 = .w := by
    rw [hm1]
    cases hmode : a1.mode with
    | w => rfl
    | none | r => simp [Access.guarded, hw, hmode] at h1
  have hwr : m.writer = some t1 := by
    unfold RW.modeOf at hw1; split at hw1
    · next h => exact h
    · split at hw1 <;> cases hw1
  have hnone : m.modeOf t2 = .none := by
    simp [RW.modeOf, hwr, hinv (by simp [hwr]), hne]
  unfold Access.guarded at h2
  rw [← hm2, hnone] at h2
  cases a2.kind <;> simp at h2

/-- **C15 (no conflicting simultaneous accesses)**: in any reachable state of the mutex, if thread
`t1` is at access `a1` and a different thread `t2` at access `a2` of the same field, each holding
the mutex in the mode the table records and each following the discipline, then neither access is
a write: a data race on that field is impossible. -/
theorem no_conflict (m : RW) (h : RW.Reach m) (t1 t2 : Nat) (hne : t1 ≠ t2) (a1 a2 : Access)
    (h1 : a1.guarded = true) (h2 : a2.guarded = true)
    (hm1 : m.modeOf t1 = a1.mode) (hm2 : m.modeOf t2 = a2.mode) :
    a1.kind ≠ .write ∧ a2.kind ≠ .write :=
  ⟨writer_excludes m (rw_inv m h) hne h1 h2 hm1 hm2, writer_excludes m (rw_inv m h) hne.symm h2 h1 hm2 hm1⟩

/-- non-vacuity: the discipline rejects a write under RLock, and two readers do hold the mutex together -/
example : ({ ty := "T", field := "f", kind := .write, mode := .r, fresh := false, site := "" } : Access).guarded = false := rfl
example : ∃ m, RW.Reach m ∧ m.modeOf 1 = .r ∧ m.modeOf 2 = .r :=
  ⟨_, .step (.step .init (o := .rlock 1) rfl) (o := .rlock 2) rfl, by decide, by decide⟩

section LastMod
open NV.LastMod

/-- **C15 (replies of some sequential order, last-modified table)**: `ts i` = the time announced to handler `i`, `sched` = any
interleaving of the handlers' two critical sections (look under RLock; compare-and-store under Lock) in which exactly the
handlers `threads` take part and finish.  The time recorded at the end is the one every sequential order records. -/
theorem lastmod_any_schedule (ts : Nat → Nat) (cur0 : Nat) (sched threads : List Nat)
    (honly : ∀ i, i ∈ sched → i ∈ threads)
    (hdone : ∀ i, i ∈ threads → (run ts (init cur0) sched).ph i = .done) :
    (run ts (init cur0) sched).cur = newest cur0 ts threads :=
  NV.LastModL.any_schedule ts cur0 sched threads honly hdone

/-- one handler after the other, in any order: `newest` is what is recorded -/
theorem lastmod_sequential (ts : Nat → Nat) (cur0 : Nat) (order : List Nat) :
    (run ts (init cur0) (sequential order)).cur = newest cur0 ts order :=
  NV.LastModL.lastmod_sequential ts cur0 order

/-- … and it does not depend on the order -/
theorem lastmod_order_irrelevant (ts : Nat → Nat) (cur0 : Nat) (order order' : List Nat) (h : order.Perm order') :
    newest cur0 ts order = newest cur0 ts order' :=
  (NV.LastModL.newest_spec ts order cur0).eq_of_mem_iff (NV.LastModL.newest_spec ts order' cur0) fun _ => h.mem_iff

/-- nothing recorded is ever lost: after any schedule (also a partial one) the recorded time is not before `cur0`;
between two points of one run: `LastModL.run_cur_le` -/
theorem lastmod_monotone (ts : Nat → Nat) (cur0 : Nat) (sched : List Nat) : cur0 ≤ (run ts (init cur0) sched).cur :=
  NV.LastModL.run_cur_le ts sched (init cur0)

def tsW : Nat → Nat := fun i => if i = 0 then 2 else 1

/-- what the comparison under the write lock is for: storing unconditionally after the look (check-then-act), handler 1
(announced time 1) looks, handler 0 (time 2) looks and stores, handler 1 stores: time 1 is recorded, although both
sequential orders record 2. -/
theorem lastmod_unchecked_store_loses_update :
    (runNA tsW (init 0) [1, 0, 0, 1]).cur = 1 ∧ (runNA tsW (init 0) [1, 0, 0, 1]).ph 0 = .done ∧
    (runNA tsW (init 0) [1, 0, 0, 1]).ph 1 = .done ∧ newest 0 tsW [0, 1] = 2 ∧ newest 0 tsW [1, 0] = 2 := by
  decide

/-- non-vacuity of `lastmod_any_schedule`: the same interleaving on the code as it is meets the hypotheses and records 2 -/
example : (∀ i, i ∈ [1, 0, 0, 1] → i ∈ [0, 1]) ∧ (run tsW (init 0) [1, 0, 0, 1]).ph 0 = .done ∧
    (run tsW (init 0) [1, 0, 0, 1]).ph 1 = .done ∧ (run tsW (init 0) [1, 0, 0, 1]).cur = 2 := by decide

/-- **regenerated**: certificates for (the step to paths, `CFG.point_ok` / `Ev.held_of_okAfter`, is not drawn): in the
control-flow graph of `(*DOH).updateLastMod` every store into the table happens with the write lock held (`lmLocked`:
`mu.Lock()` to `mu.Unlock()`) and after a read of the table made since the last lock release (`lmFresh`), on every path;
the extraction saw the store(s). -/
theorem gen_lastmod_update_atomic :
    NV.CFG.check Gen.LastMod.lmLocked_strict Gen.LastMod.lmLocked Gen.LastMod.lmLocked_cert Gen.LastMod.lmLocked_init = true ∧
    NV.CFG.check Gen.LastMod.lmFresh_strict Gen.LastMod.lmFresh Gen.LastMod.lmFresh_cert Gen.LastMod.lmFresh_init = true ∧
    Gen.LastMod.lmLocked_init = (0, 0) ∧ Gen.LastMod.lmFresh_init = (0, 0) ∧
    1 ≤ Gen.LastMod.stores ∧
    (Gen.LastMod.lmLocked.filter fun b => b.evs.contains .need).length = Gen.LastMod.stores ∧
    (Gen.LastMod.lmFresh.filter fun b => b.evs.contains .need).length = Gen.LastMod.stores := by
  decide

end LastMod

/-- **regenerated (configuration consulted per query)**: `(*Profiles).Get` and `(*Forwarders).Get` — called by every handler
goroutine on objects that carry no lock — and everything they call inside package config write nothing that outlives the
call: no assignment through the receiver, a parameter or a pointer derived from them, no `sync/atomic` store.  Functions
without shared writes commute, so their answers under any interleaving are those of every sequential order. -/
theorem gen_query_path_config_readonly :
    (Gen.ReadOnly.table.all fun r => r.2.isEmpty) = true ∧
    (Gen.ReadOnly.table.any fun r => r.1 == "Profiles.Get") = true ∧
    (Gen.ReadOnly.table.any fun r => r.1 == "Forwarders.Get") = true ∧
    (Gen.ReadOnly.table.any fun r => r.1 == "profile.Match") = true ∧
    (Gen.ReadOnly.table.any fun r => r.1 == "Resolver.Match") = true := by
  decide

end NV.C15
