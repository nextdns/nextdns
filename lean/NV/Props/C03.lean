/-
  C03 — upstream faults cost at most the request timeout.

  Model: NV.Model.Upstream. The model's clock is exact: "completion time" is the arrival time of
  the accepted datagram or the deadline. Real time is measured by the `upfault` area.
-/
import NV.Lemmas.PkgState
import NV.Lemmas.Reply
import NV.Model.Upstream
import NV.Gen.Upstream
namespace NV.C03
open NV

/-- a datagram the DNS53 loop accepts -/
def Good (id D : Nat) (a : Arrival) : Prop := a.time < D ∧ 2 ≤ a.data.length ∧ rd16 a.data 0 = id

/-- a datagram the loop skips and keeps waiting -/
def Skipped (id D : Nat) (a : Arrival) : Prop := a.time < D ∧ (a.data.length < 2 ∨ rd16 a.data 0 ≠ id)

theorem arrival_cases (id D : Nat) (a : Arrival) : D ≤ a.time ∨ Skipped id D a ∨ Good id D a := by
  unfold Skipped Good; omega

theorem dns53Loop_late {id D : Nat} {a : Arrival} (h : D ≤ a.time) (rest : List Arrival) :
    dns53Loop id D (a :: rest) = .timeout D := by
  rw [dns53Loop, if_pos h]

theorem dns53Loop_skip {id D : Nat} {a : Arrival} (h : Skipped id D a) (rest : List Arrival) :
    dns53Loop id D (a :: rest) = dns53Loop id D rest := by
  rw [dns53Loop, if_neg (by have := h.1; omega)]
  rcases h.2 with h2 | h2
  · rw [if_pos h2]
  · rw [if_pos h2, ite_self]

theorem dns53Loop_good {id D : Nat} {a : Arrival} (h : Good id D a) (rest : List Arrival) :
    dns53Loop id D (a :: rest) = .answer a.time a.data := by
  rw [dns53Loop, if_neg (by have := h.1; omega), if_neg (by have := h.2.1; omega),
    if_neg (by simpa using h.2.2)]

/-- **C03 (bounded by the deadline)**: for every sequence of arrivals the DNS53 read loop
completes no later than the deadline (in the model's clock). -/
theorem dns53_time_le (id D : Nat) (as : List Arrival) : (dns53Loop id D as).time ≤ D := by
  induction as with
  | nil => exact Nat.le_refl D
  | cons a rest ih =>
    rcases arrival_cases id D a with h | h | h
    · rw [dns53Loop_late h]; exact Nat.le_refl D
    · rw [dns53Loop_skip h]; exact ih
    · rw [dns53Loop_good h]; exact Nat.le_of_lt h.1

/-- **C03 (which datagram is the answer)**: the loop answers with `d` at time `t` exactly when `d`
is the first datagram that is in time, at least 2 bytes long and carries the query ID, all earlier
ones having been in time but short or mismatched. -/
theorem dns53_answer_iff (id D : Nat) (as : List Arrival) (t : Nat) (d : Bytes) :
    dns53Loop id D as = .answer t d ↔
      ∃ pre post, as = pre ++ ⟨t, d⟩ :: post ∧ Good id D ⟨t, d⟩ ∧ ∀ a ∈ pre, Skipped id D a := by
  induction as with
  | nil => simp [dns53Loop]
  | cons a rest ih =>
    constructor
    · intro h
      rcases arrival_cases id D a with ha | ha | ha
      · rw [dns53Loop_late ha] at h; cases h
      · rw [dns53Loop_skip ha, ih] at h
        obtain ⟨pre, post, rfl, hg, hs⟩ := h
        exact ⟨a :: pre, post, rfl, hg, List.forall_mem_cons.mpr ⟨ha, hs⟩⟩
      · rw [dns53Loop_good ha] at h
        cases h
        exact ⟨[], rest, rfl, ha, fun _ hx => nomatch hx⟩
    · rintro ⟨pre, post, he, hg, hs⟩
      cases pre with
      | nil => cases he; exact dns53Loop_good hg _
      | cons b pre =>
        cases he
        rw [dns53Loop_skip (hs a List.mem_cons_self), ih]
        exact ⟨pre, post, rfl, hg, fun x hx => hs x (List.mem_cons_of_mem _ hx)⟩

/-- otherwise the query fails exactly at the deadline — never later -/
theorem dns53_timeout_at_deadline (id D : Nat) (as : List Arrival) (t : Nat)
    (h : dns53Loop id D as = .timeout t) : t = D := by
  induction as with
  | nil => cases h; rfl
  | cons a rest ih =>
    rcases arrival_cases id D a with ha | ha | ha
    · rw [dns53Loop_late ha] at h; cases h; rfl
    · rw [dns53Loop_skip ha] at h; exact ih h
    · rw [dns53Loop_good ha] at h; cases h

/-- non-vacuity: an arrival sequence with a stale answer of a previous query, a runt and then the
answer; and one where the answer comes too late. -/
example : dns53Loop 7 300 [⟨10, [0, 9, 1]⟩, ⟨12, [0]⟩, ⟨40, [0, 7, 1, 2]⟩] = .answer 40 [0, 7, 1, 2] := by decide
example : dns53Loop 7 300 [⟨10, [0, 9, 1]⟩, ⟨550, [0, 7, 1, 2]⟩] = .timeout 300 := by decide

theorem readBody_data (L : Nat) (chunks : List Bytes) (rest : List ReadEv) (acc : Bytes) (hacc : acc.length < L) :
    readBody L (chunks.map .data ++ rest) acc =
      if (acc ++ chunks.flatten).length ≥ L then .ok ((acc ++ chunks.flatten).take L, true)
      else readBody L rest (acc ++ chunks.flatten) := by
  induction chunks generalizing acc with
  | nil => simp only [List.map_nil, List.nil_append, List.flatten_nil, List.append_nil]; rw [if_neg (by omega)]
  | cons c cs ih =>
    simp only [List.map_cons, List.cons_append, readBody, List.flatten_cons, ← List.append_assoc]
    by_cases h : (acc ++ c).length ≥ L
    · rw [if_pos h, if_pos (by rw [List.length_append]; omega), List.take_append_of_le_length h]
    · rw [if_neg h, ih (acc ++ c) (by omega)]

/-- **C03 (body reading is chunking-independent)**: however the HTTP body is split into reads that
return data (trickled byte by byte or at once) before a bare EOF, `readDNSResponse` returns the same
thing: the whole body when it is shorter than the buffer, its first `L` bytes flagged truncated
otherwise. (Not covered: a last read that returns its bytes together with `io.EOF`; a body of exactly
`L` bytes is then not flagged, `readBody 3 [.eof [1, 2, 3]] [] = .ok ([1, 2, 3], false)`.) -/
theorem readBody_chunking (L : Nat) (chunks : List Bytes) (acc : Bytes) (hacc : acc.length < L) :
    readBody L (chunks.map .data ++ [.eof []]) acc =
      .ok (if (acc ++ chunks.flatten).length ≥ L then ((acc ++ chunks.flatten).take L, true)
           else (acc ++ chunks.flatten, false)) := by
  rw [readBody_data L chunks _ acc hacc]
  split
  · rfl
  · rw [readBody, List.append_nil, List.take_of_length_le (by omega)]

/-- a read error (reset, deadline, RST_STREAM) before the buffer is full fails the request -/
theorem readBody_fail (L : Nat) (chunks : List Bytes) (rest : List ReadEv) (acc : Bytes)
    (h : (acc ++ chunks.flatten).length < L) :
    readBody L (chunks.map .data ++ .fail :: rest) acc = .error () := by
  rw [readBody_data L chunks _ acc (by rw [List.length_append] at h; omega), if_neg (by omega), readBody]

/-- **C03 (every fault becomes SERVFAIL)**: transport errors (refused, reset, hang until the
deadline, TLS failure), any status other than 200, a body that fails before its end (and before the
buffer is full) and an empty body all make the handler send SERVFAIL. -/
theorem fault_to_servfail (L : Nat) (q : Query) :
    resolved q (dohOutcome L .transportError) = replyRCode 2 q ∧
    (∀ code body, code ≠ 200 → resolved q (dohOutcome L (.status code body)) = replyRCode 2 q) ∧
    (∀ (chunks : List Bytes) rest, chunks.flatten.length < L →
        resolved q (dohOutcome L (.status 200 (chunks.map .data ++ .fail :: rest))) = replyRCode 2 q) ∧
    (0 < L → resolved q (dohOutcome L (.status 200 [.eof []])) = replyRCode 2 q) := by
  refine ⟨rfl, ?_, ?_, ?_⟩
  · intro code body h; simp [dohOutcome, h, resolved]
  · intro chunks rest h
    simp only [dohOutcome, ne_eq, not_true_eq_false, ↓reduceIte]
    rw [readBody_fail L chunks rest [] (by simpa using h)]
    rfl
  · intro hL
    simp [dohOutcome, readBody, resolved]

/-- a timeout of the plain-DNS loop is an error for the handler, hence SERVFAIL -/
theorem dns53_timeout_servfail (id D : Nat) (as : List Arrival) (q : Query) (t : Nat)
    (h : dns53Loop id D as = .timeout t) : resolved q (dns53Loop id D as).outcome = replyRCode 2 q := by
  rw [h]; rfl

/-- **C03 (a complete message is delivered)**: status 200 and a body of 1..L-1 bytes, however
chunked, reaches the handler unchanged. -/
theorem complete_message_delivered (L : Nat) (q : Query) (chunks : List Bytes)
    (h1 : 1 ≤ chunks.flatten.length) (h2 : chunks.flatten.length < L) (hL : L ≤ 65536) :
    resolved q (dohOutcome L (.status 200 (chunks.map .data ++ [.eof []]))) = chunks.flatten := by
  simp only [dohOutcome, ne_eq, not_true_eq_false, ↓reduceIte]
  rw [readBody_chunking L chunks [] (by show 0 < L; omega), List.nil_append, if_neg (by omega)]
  exact resolved_bytes q chunks.flatten h1 (by omega)

/-- tie to the source (regenerated): in `DNS53.resolve` the connection is dialled with the request
context and `SetDeadline(ctx.Deadline())` precedes the first Write/Read on it; in `DOH.resolve`
the HTTP request is created with the request context; `DNSEndpoint.Exchange` does the same. -/
theorem gen_deadline_attached :
    Gen.Upstream.dns53_dial_with_ctx = true ∧ Gen.Upstream.dns53_deadline_before_io = true ∧
    Gen.Upstream.doh_request_with_ctx = true := by decide

/-- tie to the source (regenerated): EVERY function of the plain-DNS upstream code that dials
(`DNS53.resolve`, `DNSEndpoint.Exchange`, and any helper added beside them — a TCP retry, a second
server) passes the request context to its dial and sets a deadline on the connection before its
first read or write: no upstream exchange can outlive the request. -/
theorem gen_every_dial_bounded :
    (Gen.Upstream.dns53_dialers.all fun d => d.2.1 && d.2.2) = true ∧ 2 ≤ Gen.Upstream.dns53_dialers.length := by
  decide

theorem run_unbounded (hung : Nat) (hs : List Bool) : (ConnPool.run ⟨none, hung⟩ hs).1 = hs := by
  induction hs generalizing hung with
  | nil => rfl
  | cons h hs ih => cases h <;> simp [ConnPool.run, ConnPool.request, ConnPool.canDial, ih]

/-- **C03 (recovery after connection-level hangs)**: with an unbounded pool, whatever connection
hangs came before, every request issued while the upstream is healthy is answered. -/
theorem recovery_unbounded_pool (hung : Nat) (hs : List Bool) :
    ∀ i : Nat, hs[i]? = some true → ((ConnPool.run ⟨none, hung⟩ hs).1)[i]? = some true :=
  fun _ hi => (run_unbounded hung hs).symm ▸ hi

/-- why the bound matters: with one connection per host and no handshake timeout, a single hung
dial makes every later request fail although the upstream is healthy again -/
theorem bounded_pool_wedges :
    (ConnPool.run ⟨some 1, 0⟩ [false, true, true, true]).1 = [false, false, false, false] := by decide

/-- tie to the source (regenerated from resolver/endpoint/transport_h2.go): the DoH transport sets
no per-host connection limit, so `recovery_unbounded_pool` is the applicable statement. -/
theorem gen_pool_unbounded : Gen.Upstream.doh_conn_limits = [] := by decide

example : (ConnPool.run ⟨none, 0⟩ [false, true, false, true]).1 = [false, true, false, true] := by decide

/-- **regenerated (no hidden state between exchanges)**: the models of the resolvers, of the probe and of the transports decide
every exchange from its own inputs (`dns53Loop`, `dohOutcome`, the `upfpair` / `d53soak` / `realep` model lines).  In the
packages on the query path — proxy, resolver, resolver/endpoint, resolver/query, config — the only package-level variables
written after initialisation are the lazily built root-certificate pool and its `sync.Once`; everything else that outlives a
query hangs off the objects the models carry (cache, manager, endpoint, proxy).  (A counter, a socket list, a table of
transports or a cached probe message at package level would be state the models do not have.) -/
theorem gen_no_hidden_process_state :
    (Gen.PkgState.table.all fun r =>
      r.2.2.isEmpty || (r.1 == "resolver/endpoint" && (r.2.1 == "rootCAInit" || r.2.1 == "rootCAs"))) = true ∧
    (Gen.PkgState.table.any fun r => r.1 == "resolver" && r.2.1 == "defaultDialer") = true ∧
    (Gen.PkgState.table.any fun r => r.1 == "resolver/endpoint" && r.2.1 == "TestDomain") = true :=
  ⟨Gen.PkgState.only_rootCA_written, by decide +kernel, by decide +kernel⟩

end NV.C03
