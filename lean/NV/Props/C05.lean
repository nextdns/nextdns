/-
  C05 — UDP replies respect the client's size limit; cuts are flagged with TC; TCP replies are
  never shortened and carry a correct two-byte length prefix.

  All statements quantify over every query (hence every advertised size 0..65535 or absent = 512)
  and every resolution outcome (every upstream length), with no bound.
-/
import NV.Model.Reply
import NV.Gen.Proxy
import NV.Lemmas.Reply
namespace NV.C05
open NV

/-- tie to the source: the constants regenerated from proxy/udp.go, proxy/tcp.go and (the last)
resolver/query/query.go by /verif/extract agree with the hand model the theorems are about. -/
theorem gen_consts_agree :
    Gen.maxUDPSize = maxUDPSize ∧ Gen.maxDNS0Size = maxDNS0Size ∧ Gen.maxTCPSize = maxTCPSize ∧
    Gen.maxDNSSize = ({} : Query).msgSize := by decide

/-- … and so does the truncation block -/
theorem gen_udpTrunc_agree (rsize msgSize : Nat) : Gen.udpTrunc rsize msgSize = udpTrunc rsize msgSize := by
  -- the same three tests on both sides (`show` puts the generated one in the model's words)
  unfold Gen.udpTrunc udpTrunc
  show (if rsize > maxUDPSize ∧ (rsize > msgSize ∨ rsize > maxDNS0Size) then _ else _) = _
  split
  · show (if msgSize > maxUDPSize then _ else _) = _
    split
    · show (if rsize > msgSize then _ else _) = _
      split <;> rfl
    · rfl
  · rfl

/-- a SERVFAIL built by the proxy is at most 12 + 256 + 4 bytes: it is never itself truncated -/
theorem servfail_small (rcode : Nat) (q : Query) : (replyRCode rcode q).length ≤ 272 :=
  (replyRCode_length_bounds rcode q).2

/-- **C05 (limit)**: a UDP reply never exceeds max(512, advertised EDNS0 size). -/
theorem udp_len_le (q : Query) (o : Outcome) : (udpReply q o).length ≤ max 512 q.msgSize := by
  rw [udpReply_length]; exact Nat.min_le_right _ _

/-- the TC flag: bit 1 of byte 2 -/
def tcSet (m : Bytes) : Prop := (byteAt m 2 / 2) % 2 = 1

@[simp] theorem setTC_length (m : Bytes) : (setTC m).length = m.length := List.length_set

theorem take_setTC_tc (r : Bytes) (n : Nat) (hn : 3 ≤ n) (hr3 : 3 ≤ r.length) :
    tcSet ((setTC r).take n) := by
  unfold tcSet
  rw [byteAt_take _ (by omega), byteAt_setTC r (by omega)]
  exact or2_bit _

/-- **C05 (cuts are flagged)**: whenever the datagram is shorter than the message the resolver
produced, the TC bit is set in what is sent. -/
theorem udp_cut_sets_tc (q : Query) (o : Outcome)
    (hcut : (udpReply q o).length < (resolved q o).length) : tcSet (udpReply q o) := by
  rw [udpReply_length] at hcut
  rw [udpReply_eq, if_pos (by omega)]
  apply take_setTC_tc <;> omega

/-- **C05 (fits ⇒ full length)**: an answer within the client's limit is delivered at full length. -/
theorem udp_fits_full (q : Query) (o : Outcome)
    (hfit : (resolved q o).length ≤ max 512 q.msgSize) :
    (udpReply q o).length = (resolved q o).length := by
  rw [udpReply_length]; exact Nat.min_eq_left hfit

/-- … and, when it is also at most 4094 bytes, byte-for-byte (above 4094 the proxy sets TC
although nothing was cut: `tc_without_cut_witness`). -/
theorem udp_fits_unmodified_partial (q : Query) (o : Outcome)
    (hfit : (resolved q o).length ≤ max 512 q.msgSize) (h4094 : (resolved q o).length ≤ 4094) :
    udpReply q o = resolved q o := by
  rw [udpReply_eq, if_neg (by omega), List.take_of_length_le hfit]

/-- the negative half kept visible: TC can be set without shortening -/
theorem tc_without_cut_witness : udpTrunc 5000 8000 = (5000, true) := by decide

/-- **C05 (TCP)**: TCP replies are never shortened and carry the exact length prefix. -/
theorem tcp_prefix (q : Query) (o : Outcome) :
    tcpReply q o = be16 (resolved q o).length ++ resolved q o ∧ (resolved q o).length ≤ 65535 :=
  ⟨tcpReply_eq q o, (resolved_length_bounds q o).2⟩

/-- a concrete cut and a concrete fit of `udpTrunc` -/
example : (udpTrunc 1500 1232).1 < 1500 ∧ (udpTrunc 1500 1232).2 = true := by decide
example : (1200 : Nat) ≤ max 512 1232 ∧ udpTrunc 1200 1232 = (1200, false) := by decide

end NV.C05
