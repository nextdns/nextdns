/-
  C06 — cached answers never cross profiles, transports or question tuples
  (and the history-level half of C07: a cached answer is served only while fresh, never for PTR,
  and a failed refetch ends in SERVFAIL, not in the expired entry).

  All statements are about `NV.Cache` (lean/NV/Model/Cache.lean), the model of `DOH.resolve`,
  `DNS53.resolve`, `cacheKey`, `lastMod`/`updateLastMod`, `readDNSResponse` and the profile-URL
  construction of run.go.  They quantify over
    * every history `ops : List Op` (queries of any profile / URL over DoH and DNS53 with every
      upstream outcome, clock advances, evictions of anything at any time, and stores by
      concurrent resolutions that complete late — `Op.lateStore`, i.e. interleaved schedules), of
      any length,
    * every configuration `cfg` (cache on/off, buffer length),
    * every TTL arithmetic `T : TTLFn` (the theorems do not depend on `AdjustedResponse`/`updateTTL`),
    * every initial clock value.
  The model is tied to the code by the `cache` correspondence area (real `DOH.resolve` /
  `DNS53.resolve` on a shared harness-owned Cacher, injected RoundTripper, loopback UDP server,
  virtual time) and by the regenerated facts of `NV.Gen.Cache`, `NV.Gen.Dispatch`, `NV.Gen.PkgState` (`gen_*`).
-/
import NV.Lemmas.PkgState
import NV.Lemmas.Cache
import NV.Gen.Cache
import NV.Gen.Dispatch
namespace NV.C06
open NV NV.Cache

/-- `Gen.Cache.profileUrlSites` counts the `return`s of run.go's `GetProfileURL` function literals, and
/verif/extract/cache.go writes 0 there unless every one of them returns the same literal prefix `+ profile`
(1, with the model's own prefix, if it finds no such literal at all: the tie is then the correspondence
check's).  So `1 ≤ …` beside the first conjunct says the URL is `profilePrefix ++ profile`, which determines
the profile (`profileUrl_inj`); doh.go's default URL and query.TypePTR are the ones of the model. -/
theorem gen_consts_agree :
    Gen.Cache.profilePrefix = profilePrefix ∧ 1 ≤ Gen.Cache.profileUrlSites ∧
    Gen.Cache.defaultUrl = defaultUrl ∧ Gen.Cache.typePTR = 12 := by decide

/-- every `cacheKey{…}` literal of `DOH.resolve` (lookup and store) is
`{<the url variable after the default-URL statement>, q.Class, q.Type, q.Name}` and every one of
`DNS53.resolve` is `{"", q.Class, q.Type, q.Name}`: lookup and store use the same tuple, as
`dohKey` / `dns53Key` of the model do. -/
theorem gen_key_shape_agree :
    (∀ s ∈ Gen.Cache.dohKeySites, s = ["var", ".Class", ".Type", ".Name"]) ∧
    2 ≤ Gen.Cache.dohKeySites.length ∧ Gen.Cache.dohCtxIsUrlVar = true ∧
    (∀ s ∈ Gen.Cache.dns53KeySites, s = ["lit:", ".Class", ".Type", ".Name"]) ∧
    2 ≤ Gen.Cache.dns53KeySites.length := by decide +kernel

/-- `(*DNS).Resolve` produces no answer before the endpoint manager has chosen the transport — no
call that touches a resolver or a cache stands outside the type switch of the closure it hands to `Manager.Do` — and in that
switch a DoH endpoint is resolved by `r.DOH.resolve` only, a plain-DNS endpoint by `r.DNS53.resolve` only, any other case by
nothing.  So `Op.doh` / `Op.dns53` of the cache model (whose keys are disjoint across the transports, `doh_dns53_keys_disjoint`)
are all there is between a query and the cache. -/
theorem gen_resolve_dispatch :
    Gen.Dispatch.doCalls = 1 ∧ Gen.Dispatch.outside = [] ∧
    (Gen.Dispatch.cases.all fun c =>
      if c.1 = "*endpoint.DOHEndpoint" then c.2 == ["r.DOH.resolve"]
      else if c.1 = "*endpoint.DNSEndpoint" then c.2 == ["r.DNS53.resolve"]
      else c.2 == []) = true ∧
    (Gen.Dispatch.cases.any fun c => c.1 == "*endpoint.DOHEndpoint") = true ∧
    (Gen.Dispatch.cases.any fun c => c.1 == "*endpoint.DNSEndpoint") = true := by
  decide +kernel

/-- as `NV.C03.gen_no_hidden_process_state`: no package-level variable of
the query-path packages is written after initialisation except the root-certificate pool — an answer can only cross from one
question to another through the cache, whose keys `cache_inv` governs. -/
theorem gen_no_hidden_process_state :
    (Gen.PkgState.table.all fun r =>
      r.2.2.isEmpty || (r.1 == "resolver/endpoint" && (r.2.1 == "rootCAInit" || r.2.1 == "rootCAs"))) = true :=
  Gen.PkgState.only_rootCA_written

/-- a DoH context is never the DNS53 context `[]`: answers learned over one transport are filed under
keys the other transport never looks up -/
theorem doh_dns53_keys_disjoint (u : Url) (q q' : Query) : dohKey u q ≠ dns53Key q' :=
  fun h => dohCtx_ne_nil u (congrArg Key.ctx h)

/-- different profiles have different upstream URLs … -/
theorem profileUrl_inj (p₁ p₂ : Bytes) (h : profileUrl p₁ = profileUrl p₂) : p₁ = p₂ :=
  List.append_cancel_left h

/-- … which are used as they are (the default URL only replaces the empty URL) … -/
theorem dohCtx_profileUrl (p : Bytes) : dohCtx (profileUrl p) = profileUrl p := by
  unfold dohCtx profileUrl profilePrefix
  simp

/-- … so queries resolved for different profiles never share a key -/
theorem profile_keys_disjoint (p₁ p₂ : Bytes) (q q' : Query) (h : p₁ ≠ p₂) :
    dohKey (profileUrl p₁) q ≠ dohKey (profileUrl p₂) q' := by
  intro hk
  have := congrArg Key.ctx hk
  simp only [dohKey, dohCtx_profileUrl] at this
  exact h (profileUrl_inj _ _ this)

/-- two explicit URLs share a context only if they are equal or one is empty and the other is the
default URL it stands for -/
theorem dohCtx_eq_iff (u v : Url) :
    dohCtx u = dohCtx v ↔ u = v ∨ (u = [] ∧ v = defaultUrl) ∨ (u = defaultUrl ∧ v = []) := by
  unfold dohCtx
  by_cases hu : u = [] <;> by_cases hv : v = [] <;> simp [hu, hv, eq_comm]

/-- the name is part of the key byte for byte: no case folding -/
theorem key_case_sensitive (k₁ k₂ : Key) (h : k₁.name ≠ k₂.name) : k₁ ≠ k₂ :=
  fun e => h (congrArg Key.name e)

/-- "Foo." and "foo." are different keys under otherwise equal tuples -/
example : (⟨[], 1, 1, [70, 111, 111, 46]⟩ : Key) ≠ ⟨[], 1, 1, [102, 111, 111, 46]⟩ := by decide

theorem key_class_type_sensitive (k₁ k₂ : Key) (h : k₁.cls ≠ k₂.cls ∨ k₁.type ≠ k₂.type) : k₁ ≠ k₂ := by
  rintro rfl
  simp at h

/-! FULL STATEMENT (false of the code: known finding `dotted-label-alias`, DESIGN.md §6):
  `nameText a = nameText b → a = b` for all label lists as they occur on the wire.
`Query.Name` is `dnsmessage.Name.String()`: every label followed by '.'.  A label may itself
contain '.', so the text form — and with it the cache key — does not determine the wire name. -/

/-- proved under the hypothesis that excludes the defect: no label contains '.' -/
theorem name_key_inj_partial (a b : List Bytes) (ha : PlainLabels a) (hb : PlainLabels b)
    (h : nameText a = nameText b) : a = b := by
  -- the root is "."; any other name begins with a non-empty label without '.'
  have root (m : Bytes) (ms : List Bytes) (hm : PlainLabels (m :: ms)) : nameText [] ≠ nameText (m :: ms) :=
    fun h => by
      obtain ⟨hne, hd⟩ := hm m List.mem_cons_self
      obtain ⟨c, m', rfl⟩ := List.exists_cons_of_ne_nil hne
      exact hd (List.mem_cons.2 (.inl (List.cons.inj (h.trans (nameText_cons _ ms))).1))
  cases a with
  | nil =>
    cases b with
    | nil => rfl
    | cons m ms => exact absurd h (root m ms hb)
  | cons l ls =>
    cases b with
    | nil => exact absurd h.symm (root l ls ha)
    -- on non-empty lists `nameText` is `joinDots`
    | cons m ms => exact joinDots_inj _ _ ha hb h

/-- the hypothesis is satisfiable: ["foo","com"] is plain -/
example : PlainLabels [[102, 111, 111], [99, 111, 109]] := by
  unfold PlainLabels
  decide

/-- the negation, with the witness `\x07foo.com\x00` vs `\x03foo\x03com\x00` -/
theorem name_key_not_inj :
    ∃ a b : List Bytes, (∀ l ∈ a, l ≠ []) ∧ (∀ l ∈ b, l ≠ []) ∧ nameText a = nameText b ∧ a ≠ b :=
  ⟨[[102, 111, 111, 46, 99, 111, 109]], [[102, 111, 111], [99, 111, 109]], by decide, by decide, by decide, by decide⟩

/-- after any history, every stored entry is the answer to an upstream request
made for exactly the key it is stored under (`c.key = k`: same context/URL, class, type, name),
over the transport that the key's context names, with the clock value read before that request. -/
theorem cache_inv (T : TTLFn) (cfg : Cfg) (t0 : Time) (ops : List Op) (k : Key) (e : Entry)
    (h : (k, e) ∈ (reach T cfg t0 ops).store) :
    ∃ c ∈ (reach T cfg t0 ops).log,
      c.key = k ∧ c.resp = some e.msg ∧ c.time = e.time ∧
      c.tr = (if k.ctx = [] then Transport.dns53 else Transport.doh) :=
  inv_reach T cfg t0 ops k e h

/-- the model's clock assumption is an invariant, not a hypothesis: after any history no stored
entry is younger than the clock, so `now - time` in `age` is not cut off at 0 (its `% 2^32` stays) -/
theorem entry_time_le_now (T : TTLFn) (cfg : Cfg) (t0 : Time) (ops : List Op) (k : Key) (e : Entry)
    (h : (k, e) ∈ (reach T cfg t0 ops).store) : e.time ≤ (reach T cfg t0 ops).now :=
  timeInv_reach T cfg t0 ops k e h

/-- a reply served from the cache to `q`, resolved against `url` after any
history, is the adjusted answer of an earlier DoH request to the same effective URL for the same
class, type and name. -/
theorem hit_same_key_doh (T : TTLFn) (cfg : Cfg) (t0 : Time) (ops : List Op) (url : Url) (q : Query)
    (o : DohOut) (lat : Nat)
    (h : (stepDoh T cfg (reach T cfg t0 ops) url q o lat).2.served) :
    ∃ c ∈ (reach T cfg t0 ops).log, c.tr = .doh ∧ c.url = dohCtx url ∧
      c.q.cls = q.cls ∧ c.q.type = q.type ∧ c.q.name = q.name ∧
      ∃ m, c.resp = some m ∧
        (stepDoh T cfg (reach T cfg t0 ops) url q o lat).2.reply =
          (T.adjusted m cfg.bufLen q.id (age (reach T cfg t0 ops).now c.time)).1 := by
  obtain ⟨c, hc, hk, htr, hm⟩ :=
    lookup_provenance dohUpstream_not_served (inv_reach T cfg t0 ops) (stepDoh_eq .. ▸ h)
  exact ⟨c, hc, htr.trans (dohKey_transport url q), congrArg Key.ctx hk, congrArg Key.cls hk, congrArg Key.type hk,
    congrArg Key.name hk, hm⟩

/-- the same over DNS53 -/
theorem hit_same_key_dns53 (T : TTLFn) (cfg : Cfg) (t0 : Time) (ops : List Op) (q : Query) (o : UdpOut)
    (h : (stepDns53 T cfg (reach T cfg t0 ops) q o).2.served) :
    ∃ c ∈ (reach T cfg t0 ops).log, c.tr = .dns53 ∧
      c.q.cls = q.cls ∧ c.q.type = q.type ∧ c.q.name = q.name ∧
      ∃ m, c.resp = some m ∧
        (stepDns53 T cfg (reach T cfg t0 ops) q o).2.reply =
          (T.adjusted m cfg.bufLen q.id (age (reach T cfg t0 ops).now c.time)).1 := by
  obtain ⟨c, hc, hk, htr, hm⟩ :=
    lookup_provenance dns53Upstream_not_served (inv_reach T cfg t0 ops) (stepDns53_eq .. ▸ h)
  exact ⟨c, hc, htr, congrArg Key.cls hk, congrArg Key.type hk, congrArg Key.name hk, hm⟩

/-- profiles: a reply served to a query of profile `p` was fetched from `p`'s own URL -/
theorem hit_same_profile (T : TTLFn) (cfg : Cfg) (t0 : Time) (ops : List Op) (p : Bytes) (q : Query)
    (o : DohOut) (lat : Nat)
    (h : (stepDoh T cfg (reach T cfg t0 ops) (profileUrl p) q o lat).2.served) :
    ∃ c ∈ (reach T cfg t0 ops).log, c.tr = .doh ∧ c.url = profileUrl p ∧
      (∀ p', c.url = profileUrl p' → p' = p) := by
  obtain ⟨c, hc, htr, hu, _⟩ := hit_same_key_doh T cfg t0 ops (profileUrl p) q o lat h
  rw [dohCtx_profileUrl] at hu
  exact ⟨c, hc, htr, hu, fun p' hp' => profileUrl_inj _ _ (hp'.symm.trans hu)⟩

/-- FULL STATEMENT (false, see `dotted_label_alias`): the served answer was fetched for the same
*wire* name.  Proved for names without a '.' inside a label: if `q` asks for labels `a`, the
request the answer came from asked for labels `b`, and both are plain, then `a = b`. -/
theorem hit_same_wire_name_partial (T : TTLFn) (cfg : Cfg) (t0 : Time) (ops : List Op) (url : Url)
    (q : Query) (o : DohOut) (lat : Nat) (a : List Bytes) (ha : PlainLabels a) (hq : q.name = nameText a)
    (h : (stepDoh T cfg (reach T cfg t0 ops) url q o lat).2.served) :
    ∃ c ∈ (reach T cfg t0 ops).log, c.url = dohCtx url ∧
      ∀ b, PlainLabels b → c.q.name = nameText b → b = a := by
  obtain ⟨c, hc, _, hu, _, _, hn, _⟩ := hit_same_key_doh T cfg t0 ops url q o lat h
  exact ⟨c, hc, hu, fun b hb hcb => name_key_inj_partial b a hb ha (hcb.symm.trans (hn.trans hq))⟩

/-- a trivial TTL arithmetic for concrete witnesses: the message as it is, always fresh -/
def constT : TTLFn := ⟨fun m _ _ _ => (m, 1), id⟩

def qFooCom : Query :=
  { id := 1, cls := 1, type := 1, name := nameText [[102, 111, 111], [99, 111, 109]],
    payload := [3, 102, 111, 111, 3, 99, 111, 109, 0] }
def qFooDotCom : Query :=
  { id := 2, cls := 1, type := 1, name := nameText [[102, 111, 111, 46, 99, 111, 109]],
    payload := [7, 102, 111, 111, 46, 99, 111, 109, 0] }
def sFooCom : State := reach constT {} 5 [.doh [] qFooCom (.body [9, 9, 9] false .absent "HTTP/2.0") 0]

/-- the negation at history level (known finding "dotted-label-alias"): a DoH answer fetched for
the wire name `\x03foo\x03com\x00` is served to a query for `\x07foo.com\x00` (payloads differ,
`Query.Name` is "foo.com." for both). -/
theorem dotted_label_alias :
    qFooCom.payload ≠ qFooDotCom.payload ∧
    (stepDoh constT {} sFooCom [] qFooDotCom .transportErr 0).2.served ∧
    (stepDoh constT {} sFooCom [] qFooDotCom .transportErr 0).2.reply = [9, 9, 9] := by decide

/-- the lookup returns iff the query is not PTR, the cache is on, an
entry is stored under the query's key whose adjusted minimum TTL is positive and which was
fetched after the last configuration change announced for this URL.  `e.time` is the clock
value read before the upstream request that produced `e` (`cache_inv`, `stored_time_doh`). -/
theorem served_only_fresh_doh (T : TTLFn) (cfg : Cfg) (s : State) (url : Url) (q : Query) (o : DohOut)
    (lat : Nat) :
    (stepDoh T cfg s url q o lat).2.served ↔
      q.type ≠ 12 ∧ cfg.cacheOn = true ∧ ∃ e, get s.store (dohKey url q) = some e ∧
        (T.adjusted e.msg cfg.bufLen q.id (age s.now e.time)).2 > 0 ∧
        lastModOf s (dohCtx url) < e.time := by
  rw [← and_assoc, ← useCache_iff, stepDoh_eq]
  exact lookup_served_iff dohUpstream_not_served

/-- over DNS53: the same without the configuration test -/
theorem served_only_fresh_dns53 (T : TTLFn) (cfg : Cfg) (s : State) (q : Query) (o : UdpOut) :
    (stepDns53 T cfg s q o).2.served ↔
      q.type ≠ 12 ∧ cfg.cacheOn = true ∧ ∃ e, get s.store (dns53Key q) = some e ∧
        (T.adjusted e.msg cfg.bufLen q.id (age s.now e.time)).2 > 0 := by
  rw [← and_assoc, ← useCache_iff, stepDns53_eq]
  exact lookup_served_iff dns53Upstream_not_served

/-- a served reply is the adjusted stored message, carries no error, and leaves store and clock alone -/
theorem served_reply_doh (T : TTLFn) (cfg : Cfg) (s : State) (url : Url) (q : Query) (o : DohOut)
    (lat : Nat) (h : (stepDoh T cfg s url q o lat).2.served) :
    ∃ e, get s.store (dohKey url q) = some e ∧
      (stepDoh T cfg s url q o lat).2.reply = (T.adjusted e.msg cfg.bufLen q.id (age s.now e.time)).1 ∧
      (stepDoh T cfg s url q o lat).2.err = false ∧ (stepDoh T cfg s url q o lat).1.store = s.store ∧
      (stepDoh T cfg s url q o lat).1.now = s.now := by
  obtain ⟨e, hg, heq⟩ := lookup_of_served dohUpstream_not_served (stepDoh_eq .. ▸ h)
  rw [stepDoh_eq, heq]
  exact ⟨e, hg, rfl, rfl, rfl, rfl⟩

/-- a PTR query is never answered from the cache, whatever is stored -/
theorem ptr_never_cached_read (T : TTLFn) (cfg : Cfg) (s : State) (url : Url) (q : Query)
    (o : DohOut) (lat : Nat) (o' : UdpOut) (h : q.type = 12) :
    ¬ (stepDoh T cfg s url q o lat).2.served ∧ ¬ (stepDns53 T cfg s q o').2.served := by
  rw [served_only_fresh_doh, served_only_fresh_dns53]
  exact ⟨fun h' => h'.1 h, fun h' => h'.1 h⟩

/-- when the lookup does not return, the upstream is asked — for the
effective URL, with this query — and `c.time`, which the entry is stored with (`stored_time_doh`),
is the clock value read before the request -/
theorem stale_refetch_doh (T : TTLFn) (cfg : Cfg) (s : State) (url : Url) (q : Query) (o : DohOut)
    (lat : Nat) (h : ¬ (stepDoh T cfg s url q o lat).2.served) :
    ∃ c, (stepDoh T cfg s url q o lat).2.up = some c ∧ c.tr = .doh ∧ c.url = dohCtx url ∧ c.q = q ∧
      c.time = (if q.type ≠ 12 ∧ cfg.cacheOn = true then s.now else 0) := by
  rw [stepDoh_eq] at h ⊢
  obtain ⟨c, hup, htr, hurl, hq, ht⟩ := lookup_refetch
    (fun t0 st => (dohUpstream_fetched T cfg s (dohCtx url) q t0 st o lat).imp fun _ hf => hf.1) h
  exact ⟨c, hup, htr, hurl, hq, ht.trans (by simp only [useCache_iff])⟩

/-- over DNS53; `lookup_refetch` gives `c.url = []` and `c.time` too -/
theorem stale_refetch_dns53 (T : TTLFn) (cfg : Cfg) (s : State) (q : Query) (o : UdpOut)
    (h : ¬ (stepDns53 T cfg s q o).2.served) :
    ∃ c, (stepDns53 T cfg s q o).2.up = some c ∧ c.tr = .dns53 ∧ c.q = q := by
  rw [stepDns53_eq] at h ⊢
  obtain ⟨c, hup, htr, _, hq, _⟩ := lookup_refetch
    (fun t0 st => (dns53Upstream_fetched T cfg s q t0 st o).imp fun _ hf => hf.1) h
  exact ⟨c, hup, htr, hq⟩

/-- if the lookup does not return (a miss or a stale entry) and the upstream fails, the result
is an error — whatever expired entry is left in the buffer — and the handler sends SERVFAIL. -/
theorem stale_never_served_doh (T : TTLFn) (cfg : Cfg) (s : State) (url : Url) (q : Query) (o : DohOut)
    (lat : Nat) (h : ¬ (stepDoh T cfg s url q o lat).2.served) (hf : o.fails cfg.bufLen) :
    (stepDoh T cfg s url q o lat).2.err = true ∧
    resolved q (stepDoh T cfg s url q o lat).2.outcome = replyRCode 2 q := by
  rw [stepDoh_eq] at h ⊢
  exact lookup_servfail (fun t0 st => dohUpstream_err T cfg s (dohCtx url) q t0 st o lat hf) h

theorem stale_never_served_dns53 (T : TTLFn) (cfg : Cfg) (s : State) (q : Query) (o : UdpOut)
    (h : ¬ (stepDns53 T cfg s q o).2.served) (hf : o.fails q.id cfg.bufLen) :
    (stepDns53 T cfg s q o).2.err = true ∧
    resolved q (stepDns53 T cfg s q o).2.outcome = replyRCode 2 q := by
  rw [stepDns53_eq] at h ⊢
  exact lookup_servfail (fun t0 st => dns53Upstream_err T cfg s q t0 st o hf) h

/-- **entry time = clock before the request**: a cacheable DoH answer to a non-PTR query is
stored with the clock value of the moment the query arrived, although the clock has moved on by
the latency of the request when the answer is stored -/
theorem stored_time_doh (T : TTLFn) (cfg : Cfg) (s : State) (url : Url) (q : Query) (b : Bytes)
    (lm : LmHdr) (proto : String) (lat : Nat)
    (hmiss : ¬ (stepDoh T cfg s url q (.body b false lm proto) lat).2.served)
    (hp : q.type ≠ 12) (hc : cfg.cacheOn = true) (hb : 0 < b.length) (hl : b.length < cfg.bufLen) :
    get (stepDoh T cfg s url q (.body b false lm proto) lat).1.store (dohKey url q) = some ⟨s.now, b, proto⟩ ∧
    (stepDoh T cfg s url q (.body b false lm proto) lat).1.now = s.now + lat := by
  obtain ⟨st, heq⟩ := lookup_of_not_served (stepDoh_eq .. ▸ hmiss)
  rw [stepDoh_eq, heq]
  have hu : useCache cfg q = true := (useCache_iff cfg q).mpr ⟨hp, hc⟩
  -- the body is read whole and without error (`hb`, `hl`): the upstream half takes its store branch
  simp [dohUpstream, readBody_short hl, hb, hc, hu, dohKey, get_add_self]

def qfoo : Query := { id := 7, cls := 1, type := 1, name := [102, 111, 111, 46] }
def qFoo : Query := { id := 8, cls := 1, type := 1, name := [70, 111, 111, 46] }
def sfoo : State :=
  reach constT {} 100 [.doh (profileUrl [97]) qfoo (.body [1, 2, 3] false .absent "HTTP/2.0") 0, .advance 3]

/-- non-vacuity: a concrete history with a fetch, a hit three seconds later, a miss under another
profile, a miss for the same name in another letter case, and a miss over the other transport -/
example :
    (stepDoh constT {} sfoo (profileUrl [97]) qfoo .transportErr 0).2.served ∧
    ¬ (stepDoh constT {} sfoo (profileUrl [98]) qfoo .transportErr 0).2.served ∧
    ¬ (stepDoh constT {} sfoo (profileUrl [97]) qFoo .transportErr 0).2.served ∧
    ¬ (stepDns53 constT {} sfoo qfoo .dialErr).2.served := by decide

/-- a TTL arithmetic that never finds an entry fresh -/
def staleT : TTLFn := ⟨fun m _ _ _ => (m, 0), id⟩

/-- non-vacuity of the hypotheses of `stale_never_served_doh`: an expired entry followed by a failing upstream (the
expired answer is in the reply buffer, and the result is an error all the same) -/
example :
    ¬ (stepDoh staleT {} sfoo (profileUrl [97]) qfoo .status 0).2.served ∧
    DohOut.status.fails 65535 ∧
    (stepDoh staleT {} sfoo (profileUrl [97]) qfoo .status 0).2.reply = [1, 2, 3] ∧
    (stepDoh staleT {} sfoo (profileUrl [97]) qfoo .status 0).2.err = true :=
  ⟨by decide, trivial, by decide⟩
/-- … of `stored_time_doh`: a miss (another profile) answered by a cacheable body -/
example :
    ¬ (stepDoh constT {} sfoo (profileUrl [98]) qfoo (.body [4, 5] false .absent "HTTP/2.0") 2).2.served ∧
    qfoo.type ≠ 12 ∧ ({} : Cfg).cacheOn = true ∧ 0 < [4, 5].length ∧ [4, 5].length < ({} : Cfg).bufLen := by decide
/-- … of `stale_never_served_dns53` -/
example : ¬ (stepDns53 staleT {} sfoo qfoo .dialErr).2.served ∧ UdpOut.dialErr.fails 7 65535 :=
  ⟨by decide, trivial⟩

/-- non-vacuity for schedules: a DNS53 resolution whose store is delayed behind a DoH query of the
same question does not leak into the DoH context, and serves later DNS53 queries only -/
example :
    let s := reach constT {} 100 [.doh (profileUrl [97]) qfoo (.body [1, 2, 3] false .absent "HTTP/2.0") 0,
                                  .lateStore .dns53 [] qfoo 100 [7, 7] "" .absent]
    (stepDns53 constT {} s qfoo .dialErr).2.reply = [7, 7] ∧
    (stepDoh constT {} s (profileUrl [97]) qfoo .transportErr 0).2.reply = [1, 2, 3] := by decide

end NV.C06
