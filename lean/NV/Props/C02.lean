/-
  C02 — no client bytes crash or wedge the daemon: `parse` terminates (`Inv`, `left`) and no access is out
  of range (checked twins).
-/
import NV.Model.Reply
import NV.Gen.Bounds
import NV.Gen.MsgBounds
import NV.Lemmas.ParserChecked
import NV.Lemmas.Query
import NV.Lemmas.Reply
import NV.Props.C01
import NV.Props.C04
namespace NV.C02
open NV

/-- records of the current section not yet consumed: what every loop of `query.parse` counts down -/
def left (p : Parser) : Nat := p.count p.sec - p.index

/-- parser invariant, kept by every operation: `index` never passes the section's count, a cached
header (`rhValid`) belongs to a record not yet counted, and the counts are 16-bit -/
def Inv (p : Parser) : Prop :=
  p.index ≤ p.count p.sec ∧ (p.rhValid = true → p.index < p.count p.sec) ∧ ∀ s, p.count s < 65536

/-- the split every caller of `checkAdvance` starts with -/
theorem checkAdvance_cases (p : Parser) (sec : Nat) (h : Inv p) :
    (∃ e p', p.checkAdvance sec = (.error e, p') ∧ Inv p') ∨
    (p.checkAdvance sec = (.ok (), { p with rhValid := false }) ∧ Inv { p with rhValid := false } ∧
      p.index < p.count p.sec) := by
  unfold Parser.checkAdvance
  by_cases h1 : p.sec < sec
  · rw [if_pos h1]; exact .inl ⟨_, _, rfl, h⟩
  by_cases h2 : p.sec > sec
  · rw [if_neg h1, if_pos h2]; exact .inl ⟨_, _, rfl, h⟩
  have hs : p.sec = sec := Nat.le_antisymm (Nat.not_lt.mp h2) (Nat.not_lt.mp h1)
  subst hs
  rw [if_neg h1, if_neg h2]
  dsimp only
  split
  · exact .inl ⟨_, _, rfl, Nat.zero_le _, nofun, h.2.2⟩
  · rename_i hne
    exact .inr ⟨rfl, ⟨h.1, nofun, h.2.2⟩, Nat.lt_of_le_of_ne h.1 hne⟩

/-- what an operation that consumes a record does to `p`: the invariant is kept, and on success one
record less is left -/
def Consumes {α : Type} (p : Parser) (x : Except PErr α × Parser) : Prop :=
  Inv x.2 ∧ ∀ a, x.1 = .ok a → left x.2 < left p

/-- the common last step of `question`, `skipQuestion` and `skipResource` (either branch) -/
theorem consumes_next {α : Type} {p : Parser} (h : Inv p) (hlt : p.index < p.count p.sec) (a : α) (off : Nat) :
    Consumes p (.ok a, { p with rhValid := false, off := off, index := p.index + 1 }) :=
  ⟨⟨hlt, nofun, h.2.2⟩, fun _ _ => Nat.sub_lt_sub_left hlt (Nat.lt_succ_self _)⟩

theorem consumes_error {α : Type} {p p' : Parser} (h : Inv p') (e : PErr) :
    Consumes (α := α) p (.error e, p') := ⟨h, nofun⟩

theorem question_consumes (p : Parser) (h : Inv p) : Consumes p p.question := by
  unfold Parser.question
  rcases checkAdvance_cases p 2 h with ⟨e, p', hc, hw⟩ | ⟨hc, hw, hlt⟩ <;> rw [hc] <;> dsimp only
  · exact consumes_error hw e
  · split
    · exact consumes_error hw _
    · split
      · exact consumes_error hw _
      · split
        · exact consumes_error hw _
        · exact consumes_next hw hlt _ _

theorem skipQuestion_consumes (p : Parser) (h : Inv p) : Consumes p p.skipQuestion := by
  unfold Parser.skipQuestion
  rcases checkAdvance_cases p 2 h with ⟨e, p', hc, hw⟩ | ⟨hc, hw, hlt⟩ <;> rw [hc] <;> dsimp only
  · exact consumes_error hw e
  · split
    · exact consumes_error hw _
    · exact consumes_next hw hlt _ _

/-- with a cached header `skipResource` does not call `checkAdvance`: here the invariant's clause
on `rhValid` is what is needed -/
theorem skipResource_consumes (sec : Nat) (p : Parser) (h : Inv p) : Consumes p (p.skipResource sec) := by
  unfold Parser.skipResource
  split
  · rename_i hv
    dsimp only
    split
    · exact consumes_error h _
    · exact consumes_next h (h.2.1 hv) _ _
  · unfold Parser.skipResourceFresh
    rcases checkAdvance_cases p sec h with ⟨e, p', hc, hw⟩ | ⟨hc, hw, hlt⟩ <;> rw [hc] <;> dsimp only
    · exact consumes_error hw e
    · split
      · exact consumes_error hw _
      · exact consumes_next hw hlt _ _

/-- `resourceHeader` consumes nothing: it only caches the header of the next record -/
theorem resourceHeader_left_le (sec : Nat) (p : Parser) (h : Inv p) :
    Inv (p.resourceHeader sec).2 ∧ ∀ a, (p.resourceHeader sec).1 = .ok a → left (p.resourceHeader sec).2 ≤ left p := by
  unfold Parser.resourceHeader
  split
  · exact ⟨h, fun _ _ => Nat.le_refl _⟩
  · rcases checkAdvance_cases p sec h with ⟨e, p', hc, hw⟩ | ⟨hc, hw, hlt⟩ <;> rw [hc] <;> dsimp only
    · exact ⟨hw, nofun⟩
    · split
      · exact ⟨hw, nofun⟩
      · exact ⟨⟨h.1, fun _ => hlt, h.2.2⟩, fun _ _ => Nat.le_refl _⟩

theorem skipAll_total (step : Parser → Except PErr Unit × Parser) (hs : ∀ p, Inv p → Consumes p (step p)) :
    ∀ (fuel : Nat) (p : Parser), Inv p → left p < fuel →
      ∃ r p', Parser.skipAllFuel fuel step p = some (r, p') ∧ Inv p' := by
  intro fuel
  induction fuel with
  | zero => intro p _ h; omega
  | succ n ih =>
    intro p hinv hlt
    obtain ⟨hp, hdec⟩ := hs p hinv
    unfold Parser.skipAllFuel
    split
    · rename_i heq; rw [heq] at hp; exact ⟨_, _, rfl, hp⟩
    · rename_i heq; rw [heq] at hp; exact ⟨_, _, rfl, hp⟩
    · rename_i p' heq; rw [heq] at hp hdec
      have : left p' < left p := hdec () rfl
      exact ih p' hp (by omega)

theorem left_lt_skipFuel (p : Parser) (h : Inv p) : left p < skipFuel :=
  Nat.lt_of_le_of_lt (Nat.sub_le _ _) (Nat.lt_trans (h.2.2 p.sec) (by decide))

theorem skipAll_fuel_enough (step : Parser → Except PErr Unit × Parser) (hs : ∀ p, Inv p → Consumes p (step p))
    (p : Parser) (h : Inv p) : ∃ r p', Parser.skipAllFuel skipFuel step p = some (r, p') ∧ Inv p' :=
  skipAll_total step hs _ p h (left_lt_skipFuel p h)

theorem parseLoop_total : ∀ (fuel : Nat) (p : Parser) (q : Query), Inv p →
    left p < fuel → parseLoop fuel p q ≠ .outOfFuel := by
  intro fuel
  induction fuel with
  | zero => intro p q _ h; omega
  | succ n ih =>
    intro p q hinv hlt
    obtain ⟨h1, hle⟩ := resourceHeader_left_le 5 p hinv
    unfold parseLoop
    split
    · exact LoopRes.noConfusion
    · exact LoopRes.noConfusion
    · rename_i h p1 heq
      rw [heq] at h1 hle
      have hle : left p1 ≤ left p := hle h rfl
      split
      · split <;> exact LoopRes.noConfusion
      · obtain ⟨h2, hdec⟩ := skipResource_consumes 5 p1 h1
        split
        · exact LoopRes.noConfusion
        · rename_i p2 heq2
          rw [heq2] at h2 hdec
          have : left p2 < left p1 := hdec () rfl
          exact ih p2 q h2 (by omega)

theorem start_inv (msg : Bytes) (p : Parser) (h : Parser.start msg = .ok p) : Inv p := by
  unfold Parser.start at h
  split at h
  · nomatch h
  · cases h
    exact ⟨Nat.zero_le _, nofun,
      Parser.count_lt (rd16_lt _ _) (rd16_lt _ _) (rd16_lt _ _) (rd16_lt _ _) (by decide)⟩

/-- **C02 (termination)**: `query.parse` terminates on every byte string: the model's fuel
(65537 per loop, more than any 16-bit record count) is never exhausted. -/
theorem parse_total (payload : Bytes) : parse payload ≠ .outOfFuel := by
  unfold parse parseFuel
  dsimp only
  split
  · simp
  · rename_i p hst
    have hq := (question_consumes p (start_inv payload p hst)).1
    split
    · simp
    · rename_i qu p1 heq
      rw [heq] at hq
      obtain ⟨r2, p2, e2, i2⟩ := skipAll_fuel_enough _ skipQuestion_consumes p1 hq
      rw [e2]; dsimp only
      obtain ⟨r3, p3, e3, i3⟩ := skipAll_fuel_enough _ (skipResource_consumes 3) p2 i2
      rw [e3]; dsimp only
      obtain ⟨r4, p4, e4, i4⟩ := skipAll_fuel_enough _ (skipResource_consumes 4) p3 i3
      rw [e4]; dsimp only
      exact parseLoop_total _ _ _ i4 (left_lt_skipFuel p4 i4)

/-- **C02 (never silence)**: whatever the payload and whatever the resolution outcome, the handler
model emits a non-empty UDP datagram / a framed TCP message. -/
theorem handler_replies (payload : Bytes) (o : Outcome) :
    ∃ st q, parse payload = .done st q ∧ 1 ≤ (udpReply q o).length ∧ 3 ≤ (tcpReply q o).length := by
  have ht := parse_total payload
  cases hp : parse payload with
  | outOfFuel => exact absurd hp ht
  | done st q =>
    have h1 := (resolved_length_bounds q o).1
    refine ⟨st, q, rfl, ?_, ?_⟩
    · rw [udpReply_length]; omega
    · rw [tcpReply_eq, List.length_append, be16_length]; omega

/-- **C02 (no crash on option data)**: the option loop of `parse`, with every index and slice
expression on `o.Data` carrying Go's run-time bounds check, never panics — for every option list
(any codes, any data lengths, truncated ECS headers included) — and computes what the unchecked model
`applyOpts` computes. -/
theorem applyOpts_no_oob (os : List Opt) (q : Query) : applyOpts? os q = some (applyOpts os q) := by
  induction os generalizing q with
  | nil => rfl
  | cons o os ih => rw [applyOpts?, applyOpt?_eq, Option.bind_some, ih, applyOpts_cons]

/-- non-vacuity: an ECS option cut after its 4-byte header (the input on which a relaxed guard
panics) is simply skipped. -/
example : applyOpts? [{ code := 8, data := [0, 1, 32, 0], dataOff := 30 }] {} = some {} := by decide

/-- **C02 (regenerated)**: every constant index / slice expression on `o.Data` in the option loop of
resolver/query/query.go is dominated by guards establishing at least the length it needs (the
accesses and guards are re-read from the source on every run). -/
theorem gen_optdata_in_bounds :
    (NV.Gen.Bounds.optDataAccesses.all fun a => a.2.1 ≤ a.2.2) = true ∧
    4 ≤ NV.Gen.Bounds.optDataAccesses.length := by decide

/-- **C02 (cannot be wedged by leaking capacity)**: hostile messages are handled by the same
handler closures as every other query; their regenerated control-flow graphs give the inflight
unit back on EVERY path, including the ones a parse error takes (an early return before the
deferred release is installed breaks this obligation, and `MaxInflightRequests` such messages
would stop the daemon). The certificates of `NV.C04.gen_cert_ok` and `NV.C01.write_cert_ok`,
required here because "keeps answering other clients" depends on them (layout of `e`: NV.Props.C01). -/
theorem hostile_paths_return_capacity :
    (NV.Gen.ProxyCFG.all.all fun e => NV.CFG.check e.2.2.2.2 e.2.1 e.2.2.1 e.2.2.2.1) = true ∧
    (NV.Gen.ProxyCFG.allWrites.all fun e => NV.CFG.check e.2.2.2.2 e.2.1 e.2.2.1 e.2.2.2.1) = true :=
  ⟨C04.gen_cert_ok, C01.write_cert_ok⟩

/-- **C02 (regenerated)**: the index and slice expressions on the message buffer in the dnsmessage
functions a client byte reaches, each with the length test that precedes it and the assignments
made in between, are the ones the checked twins of NV.Model.ParserChecked were written from. A
removed or weakened guard, a new unguarded access, an index moved in front of its guard change
this table. -/
theorem gen_msg_guards_agree :
    NV.Gen.MsgBounds.accesses = [
      ("unpackUint16", "msg[off]", "off+uint16Len > len(msg)", ""),
      ("unpackUint16", "msg[off+1]", "off+uint16Len > len(msg)", ""),
      ("unpackUint32", "msg[off]", "off+uint32Len > len(msg)", ""),
      ("unpackUint32", "msg[off+1]", "off+uint32Len > len(msg)", ""),
      ("unpackUint32", "msg[off+2]", "off+uint32Len > len(msg)", ""),
      ("unpackUint32", "msg[off+3]", "off+uint32Len > len(msg)", ""),
      ("unpackCompressed", "msg[currOff]", "currOff >= len(msg)", ""),
      ("unpackCompressed", "msg[currOff:endOff]", "endOff > len(msg)", ""),
      ("unpackCompressed", "msg[currOff]", "currOff >= len(msg)", ""),
      ("skipName", "msg[newOff]", "newOff >= len(msg)", ""),
      ("unpackOPTResource", "msg[off:]", "-", "")] := rfl

/-- **C02 (no panic, every byte string)**: with exactly those guards, no index or slice expression
of `unpackUint16` / `unpackUint32` reads outside the message, whatever the message and offset:
the checked twin (every access an `Option`, `none` = runtime panic) returns `some` of the total
model. -/
theorem unpackUint_no_oob (msg : Bytes) (off : Nat) :
    unpackU16? msg off = some (unpackU16 msg off) ∧ unpackU32? msg off = some (unpackU32 msg off) :=
  ⟨unpackU16?_eq msg off, unpackU32?_eq msg off⟩

/-- … nor does `Name.unpackCompressed`, for every message, start offset, pointer chain and label
layout (compression pointers may point anywhere, also past the end or at themselves) -/
theorem unpackName_no_oob (msg : Bytes) (off : Nat) :
    unpackNameLoop? msg off off 0 [] = some (unpackName msg off) :=
  unpackNameLoop?_eq msg off off 0 []

/-- … nor `skipName` -/
theorem skipName_no_oob (msg : Bytes) (off : Nat) : skipNameLoop? msg off = some (skipNameLoop msg off) :=
  skipNameLoop?_eq msg off

/-- … nor `unpackOPTResource`, whose `msg[off:]` has no guard of its own: the two successful
`unpackUint16` before it leave `off ≤ len(msg)`, for every RDLENGTH the header may claim -/
theorem unpackOPT_no_oob (msg : Bytes) (off endOff : Nat) :
    unpackOptsLoop? msg off endOff [] = some (unpackOptsLoop msg off endOff []) :=
  unpackOptsLoop?_eq msg off endOff []

/-- the twins are not vacuous: they DO report the panic a missing guard would cause -/
example : byteAt? [1, 2, 3] 3 = none ∧ sliceTo? [1, 2, 3] 2 5 = none ∧ sliceFrom? [1, 2, 3] 4 = none := by decide

end NV.C02
