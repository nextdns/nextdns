/-
  C11 — each client is resolved under the first matching profile.

  "For every client — source address, destination address and MAC — the profile used is the first
  conditional entry (subnet, MAC or interface) in configuration order that matches it, else the last
  unconditional entry, else none; an unconditional entry never shadows a later matching conditional
  one.  The chosen profile id is exactly the path of the DoH URL the query is sent to and the context
  its answer is cached under."

  Statements are about NV.Model.Profile (config/profile.go, the GetProfileURL choice of run.go, the
  URL use of resolver/doh.go) and hold for every profile list and every client tuple — no bound.
-/
import NV.Model.Profile
import NV.Lemmas.Profile
import NV.Gen.Run
namespace NV.C11
open NV NV.Prof

/-- **C11 (selection rule)**: `Profiles.Get` = first conditional entry that matches, else the LAST
unconditional entry, else "" (none). -/
theorem get_spec (ps : List Profile) (c : Client) : getP ps c = getSpec ps c :=
  getLoop_spec ps c []

/-- **C11 (no shadowing)**: a conditional entry that matches, with no matching conditional entry before
it, is chosen whatever unconditional entries stand before (or after) it. -/
theorem default_never_shadows (pre post : List Profile) (p : Profile) (c : Client)
    (hcond : isDefault p = false) (hm : matchP p c = true)
    (hpre : ∀ q ∈ pre, isDefault q = false → matchP q c = false) :
    getP (pre ++ p :: post) c = p.id := by
  rw [get_spec]
  unfold getSpec
  rw [List.find?_append, find?_conditional_none pre c hpre]
  simp [conditional, hcond, hm]

/-- the hypotheses are satisfiable with a default in front: [default "d", 10.0.0.0/8 → "p"], client 10.1.2.3 -/
example :
    let d : Profile := { id := [100] }
    let p : Profile := { id := [112], pfx := some ⟨[10, 0, 0, 0], [255, 0, 0, 0]⟩ }
    let c : Client := { src := some [10, 1, 2, 3] }
    isDefault p = false ∧ matchP p c = true ∧ (∀ q ∈ [d], isDefault q = false → matchP q c = false) ∧
    getP ([d] ++ p :: []) c = [112] ∧ getP ([d] ++ p :: []) { src := some [11, 1, 2, 3] } = [100] := by
  decide +kernel

/-- **C11 (else the last unconditional entry, else none)** -/
theorem get_default (ps : List Profile) (c : Client)
    (hnone : ∀ q ∈ ps, isDefault q = false → matchP q c = false) :
    getP ps c = match (ps.filter isDefault).getLast? with
                | some p => p.id
                | none => [] := by
  rw [get_spec]
  unfold getSpec
  rw [find?_conditional_none ps c hnone]
  rfl

/-- the hypothesis is satisfiable with conditional entries present: two defaults around a subnet entry
that does not contain the client — the LAST default wins -/
example :
    let ps : List Profile := [{ id := [97] }, { id := [112], pfx := some ⟨[10, 0, 0, 0], [255, 0, 0, 0]⟩ }, { id := [98] }]
    let c : Client := { src := some [11, 1, 2, 3] }
    (∀ q ∈ ps, isDefault q = false → matchP q c = false) ∧ getP ps c = [98] := by decide +kernel

/-- whatever `Get` returns is the id of a configured entry that matches the client (or "") -/
theorem get_sound (ps : List Profile) (c : Client) :
    getP ps c = [] ∨ ∃ p ∈ ps, p.id = getP ps c ∧ matchP p c = true := by
  rw [get_spec]
  unfold getSpec
  cases hf : List.find? (fun p => conditional p && matchP p c) ps with
  | some p =>
    have hp := List.find?_some hf
    rw [Bool.and_eq_true] at hp
    exact .inr ⟨p, List.mem_of_find?_eq_some hf, rfl, hp.2⟩
  | none =>
    cases hl : (List.filter isDefault ps).getLast? with
    | none => exact .inl rfl
    | some p =>
      have hmem := List.mem_filter.1 (List.mem_of_getLast? hl)
      exact .inr ⟨p, hmem.1, rfl, matchP_of_isDefault p c hmem.2⟩

/-- the shortcut's condition is re-translated from run.go on every check -/
theorem gen_staticCond_agree (ps : List Profile) : Gen.Run.staticCond ps = staticCond ps := by
  unfold Gen.Run.staticCond staticCond
  -- `rfl` as long as run.go spells the condition as the model does; the case split on its three tests also accepts
  -- an equivalent Boolean rewriting of it, so that a harmless edit of run.go raises no alarm
  first
    | rfl
    | (cases h1 : ps.length == 0 <;> cases h2 : ps.length == 1 <;> cases h3 : getP ps nilClient != [] <;>
        simp_all [nilClient, bne, Client.mk.injEq])

theorem gen_urlPrefix_agree :
    Gen.Run.urlPrefixStatic = urlPrefix ∧ Gen.Run.urlPrefixDynamic = urlPrefix := ⟨rfl, rfl⟩

/-- the dynamic closure asks `Profiles.Get` about (peer address, local address, MAC) in that order —
the order `Client` has in the model — and the static branch asks about the nil client only -/
theorem gen_get_args_agree :
    Gen.Run.dynamicGetArgs = ["q.PeerIP", "q.LocalIP", "q.MAC"] ∧ Gen.Run.staticGetsNilClient = true :=
  ⟨rfl, rfl⟩

/-- every DoH endpoint literal of run.go has an empty path, so the transport keeps the request path
(`if t.path != "" { req.URL.Path = t.path }` in resolver/endpoint/transport_h2.go is not taken) -/
theorem gen_endpoint_paths_empty : Gen.Run.endpointPathsEmpty = true := by decide

/-- **C11 (static shortcut is sound)**: whichever closure run.go installs, the (url, profile) pair it
returns for a client is the one `Profiles.Get` designates for THAT client. -/
theorem static_opt_sound (ps : List Profile) (c : Client) :
    getProfileURL ps c = (profileURL (getP ps c), getP ps c) := by
  unfold getProfileURL
  split
  next h =>
    -- the static closure answers for the nil client: under its condition `Get` answers every client alike
    suffices hs : getP ps nilClient = getP ps c by simp only [hs]
    unfold staticCond at h
    simp only [Bool.or_eq_true, beq_iff_eq, Bool.and_eq_true, bne_iff_ne, ne_eq] at h
    rcases h with h | ⟨h1, h2⟩
    · rw [List.length_eq_zero_iff.mp h]; rfl
    · obtain ⟨p, rfl⟩ := List.length_eq_one_iff.mp h1
      -- the single entry answered the nil client with a non-empty id: it is unconditional
      have hd : isDefault p = true := by
        cases hd : isDefault p
        · simp [getP, getLoop, matchP_nilClient, hd] at h2
        · rfl
      simp [getP, getLoop, matchP_of_isDefault, hd]
  next => rfl

/-- non-vacuity: the static branch is taken for a single unconditional profile, the dynamic one for
a single conditional profile -/
example : staticCond [{ id := [97] }] = true ∧
    staticCond [{ id := [97], mac := [1, 2, 3, 4, 5, 6] }] = false ∧ staticCond [] = true := by decide

theorem urlPath_profileURL (id : Bytes) : urlPath (profileURL id) = 47 :: id := by
  unfold urlPath profileURL urlPrefix
  rfl  -- the prefix is a literal: `drop 8` and `dropWhile` evaluate through it to its final '/'

/-- **C11 (URL)**: the DoH request for profile `id` goes to path "/" ++ id, its answer is cached under
the context `profileURL id`, and both determine the id: two different profiles never share a path
or a cache context.  (The path is the model's `urlPath`, which stands for Go's `url.Parse` only on ids without
'?', '#', '%': see NV.Model.Profile.  The statement does not ask for such ids.) -/
theorem url_path_ctx (id id' : Bytes) :
    (dohCtxAndPath (profileURL id)).2 = 47 :: id ∧
    ((dohCtxAndPath (profileURL id)).1 = (dohCtxAndPath (profileURL id')).1 → id = id') ∧
    ((dohCtxAndPath (profileURL id)).2 = (dohCtxAndPath (profileURL id')).2 → id = id') := by
  unfold dohCtxAndPath
  rw [urlPath_profileURL, urlPath_profileURL]
  exact ⟨rfl, List.append_cancel_left, fun h => (List.cons.inj h).2⟩

/-- end to end: the context/path used for client `c` is that of the profile `Get` designates for `c` -/
theorem client_url (ps : List Profile) (c : Client) :
    dohCtxAndPath (getProfileURL ps c).1 = (profileURL (getSpec ps c), 47 :: getSpec ps c) := by
  rw [static_opt_sound, ← get_spec]
  simp [dohCtxAndPath, urlPath_profileURL]

end NV.C11
