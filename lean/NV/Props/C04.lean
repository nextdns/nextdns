/-
  C04 — request capacity is bounded and always given back.

  Tie to the source: `NV.Gen.ProxyCFG` is regenerated on every run from proxy/udp.go and
  proxy/tcp.go (go/cfg): the control-flow graphs of `serveUDP`, `serveTCPConn`, `serveTCP` and of
  the handler closures they spawn, projected on the `inflightRequests` semaphore.
  `gen_cert_ok` is the obligation a missing or doubled `<-inflightRequests` on ANY path breaks.
-/
import NV.Model.CFG
import NV.Gen.ProxyCFG
import NV.Gen.Upstream
import NV.Lemmas.Sem
namespace NV.C04
open NV.CFG NV.Gen

/-- an entry of `ProxyCFG.all` is `(name, prog, cert, init, strict)` -/
theorem gen_cert_ok :
    (ProxyCFG.all.all fun e => check e.2.2.2.2 e.2.1 e.2.2.1 e.2.2.2.1) = true := by decide +kernel

/-- **one pool for every listener.** `ListenAndServe` creates exactly one semaphore, at the top
level of the function (not per address, not per goroutine), with capacity
`p.MaxInflightRequests`; every `serveUDP` and `serveTCP` it starts is given that very channel and
`serveTCP` hands it on to every `serveTCPConn`. This is the hypothesis under which the single
K-unit pool of the `NV.Sem` system (`inflight_le_K`, `concurrent_handlers_le_K`) describes the
daemon as a whole: two pools of K units each would satisfy every per-function certificate and
still process 2K queries at once. -/
theorem gen_single_semaphore :
    ProxyCFG.semMakes.length = 1 ∧
    (ProxyCFG.semMakes.all fun m => m.2.1 == "p.MaxInflightRequests" && m.2.2 == 0) = true ∧
    2 ≤ ProxyCFG.semUses.length ∧
    (ProxyCFG.semUses.all fun u => ProxyCFG.semMakes.map (·.1) == [u.2]) = true ∧
    (ProxyCFG.semUses.any fun u => u.1 == "serveUDP") = true ∧
    (ProxyCFG.semUses.any fun u => u.1 == "serveTCP") = true ∧
    ProxyCFG.semPassedToConn = true := by decide +kernel

/-- **handlers end** (the hypothesis under which "given back when the query ends" means "given
back"): the handler's unit comes back when `p.Resolve` returns, and every upstream exchange is
bounded by the request context — re-read from the source: every dial of the plain-DNS code takes
the context and sets a deadline before its first I/O, the DoH request is created with the context.
An exchange that can block for ever keeps its unit for ever. -/
theorem gen_resolve_bounded :
    (Upstream.dns53_dialers.all fun d => d.2.1 && d.2.2) = true ∧ Upstream.doh_request_with_ctx = true := by
  decide

/-- the extraction is not vacuous: the listener loops acquire and hand units to handlers, the
handlers install a deferred release, and handlers are the `strict` (panic-safe) programs. -/
theorem gen_nonvacuous :
    (ProxyCFG.serveUDP.any fun b => b.evs.contains .acq) = true ∧
    (ProxyCFG.serveUDP.any fun b => b.evs.contains .spawn) = true ∧
    (ProxyCFG.serveTCPConn.any fun b => b.evs.contains .acq) = true ∧
    (ProxyCFG.serveTCPConn.any fun b => b.evs.contains .spawn) = true ∧
    (ProxyCFG.serveUDP_handler0.any fun b => b.evs.contains .deferRel) = true ∧
    (ProxyCFG.serveTCPConn_handler0.any fun b => b.evs.contains .deferRel) = true ∧
    ProxyCFG.serveUDP_handler0_strict = true ∧ ProxyCFG.serveTCPConn_handler0_strict = true ∧
    ProxyCFG.serveUDP_handler0_init = (1, 0) ∧ ProxyCFG.serveTCPConn_handler0_init = (1, 0) ∧
    ProxyCFG.serveUDP_init = (0, 0) ∧ ProxyCFG.serveTCPConn_init = (0, 0) := by decide

theorem entry_ok (e : String × Prog × Cert × St × Bool) (he : e ∈ ProxyCFG.all) :
    check e.2.2.2.2 e.2.1 e.2.2.1 e.2.2.2.1 = true :=
  List.all_eq_true.mp gen_cert_ok e he

/-- **C04 (every path gives the unit back)**: for every extracted function and EVERY path
through it (any number of loop iterations), each exit is balanced: the units acquired on the way
were released, handed over to a handler, or are released by an installed deferred function. -/
theorem every_path_balanced (e : String × Prog × Cert × St × Bool) (he : e ∈ ProxyCFG.all)
    (i : Nat) (s : St) (b : Block) (hr : Reach e.2.1 e.2.2.2.1 i s) (hb : e.2.1[i]? = some b)
    (hexit : b.succs = []) : (runEvs b.evs s).1 = (runEvs b.evs s).2 :=
  exit_balanced _ _ _ _ (entry_ok e he) i s b hr hb hexit

/-- `CFG.point_ok`, which says what `okAfter` asserts, for every extracted function -/
theorem every_point_ok (e : String × Prog × Cert × St × Bool) (he : e ∈ ProxyCFG.all) (i : Nat) (s : St) (b : Block)
    (pre post : List Ev) (ev : Ev) (hr : Reach e.2.1 e.2.2.2.1 i s) (hb : e.2.1[i]? = some b)
    (hsplit : b.evs = pre ++ ev :: post) : ev.okAfter e.2.2.2.2 (runEvs pre s) = true :=
  point_ok _ _ _ _ (entry_ok e he) i s b hr hb pre ev post hsplit

/-- **C04 (handlers are panic-safe and never double-release)**: at every point of every path of
`serveUDP`'s handler closure the unit count is non-negative, and once a deferred release is installed the
handler holds exactly as many units as the deferred functions return — whether it leaves by
`return` or by a panic that unwinds through the `defer`. -/
theorem handler_point_ok (i : Nat) (s : St) (b : Block) (pre post : List Ev) (ev : Ev)
    (hr : Reach ProxyCFG.serveUDP_handler0 (1, 0) i s) (hb : ProxyCFG.serveUDP_handler0[i]? = some b)
    (hsplit : b.evs = pre ++ ev :: post) : ev.okAfter true (runEvs pre s) = true :=
  -- the closure's `…_init` and `…_strict` unfold to `(1, 0)` and `true`
  every_point_ok ("serveUDP_handler0", ProxyCFG.serveUDP_handler0, ProxyCFG.serveUDP_handler0_cert,
    ProxyCFG.serveUDP_handler0_init, ProxyCFG.serveUDP_handler0_strict) (by simp [ProxyCFG.all])
    i s b pre post ev hr hb hsplit

/-- `handler_point_ok` for the handler closure of `serveTCPConn` -/
theorem tcp_handler_point_ok (i : Nat) (s : St) (b : Block) (pre post : List Ev) (ev : Ev)
    (hr : Reach ProxyCFG.serveTCPConn_handler0 (1, 0) i s) (hb : ProxyCFG.serveTCPConn_handler0[i]? = some b)
    (hsplit : b.evs = pre ++ ev :: post) : ev.okAfter true (runEvs pre s) = true :=
  every_point_ok ("serveTCPConn_handler0", ProxyCFG.serveTCPConn_handler0, ProxyCFG.serveTCPConn_handler0_cert,
    ProxyCFG.serveTCPConn_handler0_init, ProxyCFG.serveTCPConn_handler0_strict) (by simp [ProxyCFG.all])
    i s b pre post ev hr hb hsplit

/-- every entry of the two handler certificates has `held = 1`; with `cert_sound` (not applied here) a handler closure
holds exactly the unit handed over at the entry of every block it reaches -/
theorem handler_holds_one :
    (ProxyCFG.serveUDP_handler0_cert.all fun c => c.1 == 1) = true ∧
    (ProxyCFG.serveTCPConn_handler0_cert.all fun c => c.1 == 1) = true := by decide

open NV.Sem

/-- **C04 (all interleavings)**: the invariant `free + Σ held = K ∧ free ≥ 0 ∧ every thread is on a
path of its certified CFG` is preserved by every step of every thread — event, spawn of a handler,
move to a successor block, return, panic after the deferred release is installed. -/
theorem inv_step (tab : Table) (K : Int) (htab : TableOK tab) (s s' : Sys)
    (hinv : Inv tab K s) (hstep : Step tab s s') : Inv tab K s' := by
  have ⟨_, hfree, hthreads⟩ := hinv
  have htok {i : Nat} {t : Thread} (hget : s.threads[i]? = some t) : ThreadOK tab t :=
    hthreads t (List.mem_of_getElem? hget)
  cases hstep with
  | ev i t e r hget hrest hns hacq =>
    obtain ⟨hbooks, hnn⟩ := ev_books e hns s.free t.st hfree hacq
    exact inv_set hinv hget (threadOK_advance (htok hget) hrest) hbooks hnn
  | spawn i t r pi c hget hrest hpi hstart =>
    obtain ⟨b, hr, hb, hsplit, hst⟩ := threadOK_at (htok hget) hpi
    obtain ⟨pc, _, hpc, _, rfl⟩ := startThread_some hstart
    -- the child program starts holding exactly the unit handed over
    obtain ⟨-, -, -, hchild⟩ := htab pi (List.mem_of_getElem? hpi)
    have hcinit : pc.init = (1, 0) :=
      (hchild pc hpc).resolve_right fun h => h ⟨b, List.mem_of_getElem? hb, by rw [hsplit, hrest]; simp⟩
    -- the parent gives the unit up, the child starts with it
    refine inv_push ?_ (threadOK_start hstart) hfree
    refine inv_set hinv hget (threadOK_advance (htok hget) hrest) ?_ (by simp only [hcinit]; omega)
    show s.free + pc.init.1 + (t.st.1 - 1) = s.free + t.st.1
    rw [hcinit]; omega
  | next i t pi b b' j hget hrest hpi hb hj hb' =>
    obtain ⟨hr, hst⟩ := threadOK_at_end (htok hget) hpi hb hrest
    exact inv_set hinv hget ⟨pi, b', hpi, hst ▸ Reach.step hr hb hj, hb', rfl, rfl⟩ rfl hfree
  | exit i t pi b hget hrest hpi hb hexit =>
    obtain ⟨hr, hst⟩ := threadOK_at_end (htok hget) hpi hb hrest
    -- at an exit what is held is what the deferred releases give back
    have hbal := exit_balanced pi.strict pi.prog pi.cert pi.init (htab pi (List.mem_of_getElem? hpi)).1
      t.blk t.s0 b hr hb hexit
    rw [← hst] at hbal
    exact hbal ▸ inv_erase hinv hget (threadOK_stOk htab (htok hget) hpi).1
  | panic i t pi hget hpi hstrict hdef =>
    have hok := threadOK_stOk htab (htok hget) hpi
    -- a strict program with a deferred release installed holds exactly what it gives back
    have hbal : t.st.1 = t.st.2 := (hok.2 hstrict).resolve_left (by omega)
    exact hbal ▸ inv_erase hinv hget hok.1

/-- the regenerated programs as a table: 0 serveUDP (spawns 1), 1 its handler, 2 serveTCPConn
(spawns 3), 3 its handler, 4 serveTCP (accept loop; starts connection threads without a unit).
A program without `spawn` events names itself as its child. -/
def proxyTable : Table := [
  ⟨ProxyCFG.serveUDP, ProxyCFG.serveUDP_cert, ProxyCFG.serveUDP_init, ProxyCFG.serveUDP_strict, 1⟩,
  ⟨ProxyCFG.serveUDP_handler0, ProxyCFG.serveUDP_handler0_cert, (1, 0), ProxyCFG.serveUDP_handler0_strict, 1⟩,
  ⟨ProxyCFG.serveTCPConn, ProxyCFG.serveTCPConn_cert, ProxyCFG.serveTCPConn_init, ProxyCFG.serveTCPConn_strict, 3⟩,
  ⟨ProxyCFG.serveTCPConn_handler0, ProxyCFG.serveTCPConn_handler0_cert, (1, 0), ProxyCFG.serveTCPConn_handler0_strict, 3⟩,
  ⟨ProxyCFG.serveTCP, ProxyCFG.serveTCP_cert, ProxyCFG.serveTCP_init, ProxyCFG.serveTCP_strict, 4⟩]

theorem proxyTable_ok : TableOK proxyTable := tableOkB_sound _ (by decide +kernel)

/-- states of the proxy with `K` units: any number of listener / connection / accept threads at
their entry holding nothing, then any interleaving of steps. (`go p.serveTCPConn(…)` hands over no
unit and is no `spawn` of the model: the connection threads are there from the start, waiting.) -/
inductive Reachable (K : Int) : Sys → Prop where
  | init (ts : List Thread) :
      (∀ t ∈ ts, ∃ pid, (pid = 0 ∨ pid = 2 ∨ pid = 4) ∧ startThread proxyTable pid = some t) →
      Reachable K ⟨K, ts⟩
  | step {s s' : Sys} : Reachable K s → Step proxyTable s s' → Reachable K s'

theorem start_listener (pid : Nat) (t : Thread) (hp : pid = 0 ∨ pid = 2 ∨ pid = 4)
    (h : startThread proxyTable pid = some t) : t.st = (0, 0) := by
  rcases hp with rfl | rfl | rfl <;> (cases h; rfl)

theorem reachable_inv (K : Int) (hK : 0 ≤ K) (s : Sys) (h : Reachable K s) : Inv proxyTable K s := by
  induction h with
  | init ts hts =>
    refine ⟨?_, hK, ?_⟩
    · have : heldSum ts = 0 := heldSum_eq_zero fun t ht => by
        obtain ⟨pid, hp, hst⟩ := hts t ht
        rw [start_listener pid t hp hst]
      simp [this]
    · intro t ht
      obtain ⟨pid, _, hst⟩ := hts t ht
      exact threadOK_start hst
  | step _ hs ih => exact inv_step proxyTable K proxyTable_ok _ _ ih hs

/-- **C04 (bounded)**: in every reachable state of every interleaving the units in use never exceed
the capacity, and the free count never goes negative. -/
theorem inflight_le_K (K : Int) (hK : 0 ≤ K) (s : Sys) (h : Reachable K s) :
    heldSum s.threads ≤ K ∧ 0 ≤ s.free ∧ s.free + heldSum s.threads = K := by
  obtain ⟨h1, h2, _⟩ := reachable_inv K hK s h
  exact ⟨by omega, h2, h1⟩

/-- **C04 (given back)**: whenever no thread holds a unit (all handlers have ended, listeners not
yet past their acquire) the whole capacity is free again — after any storm, in any order. -/
theorem capacity_restored (K : Int) (hK : 0 ≤ K) (s : Sys) (h : Reachable K s)
    (hq : ∀ t ∈ s.threads, t.st.1 = 0) : s.free = K := by
  obtain ⟨h1, _, _⟩ := reachable_inv K hK s h
  have := heldSum_eq_zero hq
  omega

def isHandler (t : Thread) : Bool := t.pid == 1 || t.pid == 3

/-- the handlers' release is the deferred one: no event of theirs moves a unit -/
theorem handler_progs_quiet :
    (∀ b ∈ ProxyCFG.serveUDP_handler0, ∀ e ∈ b.evs, e = Ev.deferRel ∨ e = .need ∨ e = .nop) ∧
    (∀ b ∈ ProxyCFG.serveTCPConn_handler0, ∀ e ∈ b.evs, e = Ev.deferRel ∨ e = .need ∨ e = .nop) := by
  decide

theorem handler_holds_unit (t : Thread) (hok : ThreadOK proxyTable t) (hh : isHandler t = true) :
    t.st.1 = 1 := by
  unfold isHandler at hh
  simp only [Bool.or_eq_true, beq_iff_eq] at hh
  -- entries 1 and 3 of the table are the handler closures, entered with (1, 0)
  rcases hh with hh | hh
  · exact quiet_holds hok (by rw [hh]; rfl) handler_progs_quiet.1
  · exact quiet_holds hok (by rw [hh]; rfl) handler_progs_quiet.2

/-- **C04 (at most K queries in process)**: the number of live handler threads never exceeds
the capacity, in any reachable state of any interleaving. (A thread of the model ends with its
release; the Go closure goes on to log the query after `<-inflightRequests`.) -/
theorem concurrent_handlers_le_K (K : Int) (hK : 0 ≤ K) (s : Sys) (h : Reachable K s) :
    ((s.threads.filter isHandler).length : Int) ≤ K := by
  obtain ⟨hsum, hfree, hthreads⟩ := reachable_inv K hK s h
  -- a handler holds one unit, any other thread none or more
  have key : ∀ ts : List Thread, (∀ t ∈ ts, ThreadOK proxyTable t) →
      ((ts.filter isHandler).length : Int) ≤ heldSum ts := by
    intro ts
    induction ts with
    | nil => intro _; exact Int.le_refl 0
    | cons t ts ih =>
      intro hall
      have hrest := ih fun x hx => hall x (List.mem_cons_of_mem _ hx)
      have htok := hall t List.mem_cons_self
      cases hh : isHandler t with
      | true =>
        have := handler_holds_unit t htok hh
        rw [List.filter_cons_of_pos hh, List.length_cons, heldSum]; omega
      | false =>
        have ⟨_, _, hpi, _⟩ := htok
        have := (threadOK_stOk proxyTable_ok htok hpi).1
        rw [List.filter_cons_of_neg (by simp [hh]), heldSum]; omega
  have := key s.threads hthreads
  omega

end NV.C04
